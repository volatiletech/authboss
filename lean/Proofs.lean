import Proofs.ClientState
import Proofs.Attr
import Proofs.Monad
import Proofs.Data
import Proofs.Pres
import Proofs.Quiet
import Proofs.CtxUser
import Proofs.Safe
import Proofs.Login
import Proofs.Dispatch
import Proofs.Keeps
import Proofs.Kept
import Proofs.StepUid
import Proofs.Ret
import Proofs.Veto
import Proofs.NoPanic
