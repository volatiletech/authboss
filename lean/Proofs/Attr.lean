import Lean.Meta.Tactic.Simp.RegisterCommand

/-- Facts `Pres R h` about the primitives, helpers and handlers of the machine: the leaves at which
`pres_auto` stops. -/
register_simp_attr pres

/-- The handler monad run on a context: `(m >>= f) c`, `pure a c`, `logf f a c`, … as equations on
*applied* computations, so that `simp only [exec]` executes a handler from the context it is given
and leaves what it has not reached yet untouched. -/
register_simp_attr exec

/-- Facts `NP h` / `NPU h` about the primitives, helpers and handlers: the leaves of `np_auto`. -/
register_simp_attr np
