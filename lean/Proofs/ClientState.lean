import AuthbossModel.ClientState
/-! Helper lemmas for C11 (client_state.go model).

A run has three phases: up to the first write events are only queued (`run_split`), the first
write flushes them (`exec_flush`), after it nothing is flushed again.  The first and the last
phase are one fact, `runFrom_quiet`, which does not depend on the configuration; that enters
only through the one `flush` in between (`flush_shape` for every `Cfg`, `flush_ok` for `ok`).
`run_shape` (every configuration) and `run_of_flush` (the flush does not fail) put the phases
together; the C11 theorems are read off these two. -/
namespace AuthbossModel.CS

def ok : Cfg := {}

theorem runFrom_cons (c w op p) : runFrom c w (op :: p) = runFrom c (exec c w op) p := rfl

theorem runFrom_append (c w p q) : runFrom c w (p ++ q) = runFrom c (runFrom c w p) q :=
  List.foldl_append

theorem evsOf_append (s p q) : evsOf s (p ++ q) = evsOf s p ++ evsOf s q := List.filterMap_append

theorem writesOf_append (p q) : writesOf (p ++ q) = writesOf p ++ writesOf q :=
  List.filterMap_append

@[simp] theorem isCall_call (s evs) : (Out.call s evs).isCall = true := rfl

theorem isCallOf_of_not_isCall (o : Out) (s : Store) (h : o.isCall = false) :
    o.isCallOf s = false := by
  cases o <;> simp_all [Out.isCallOf]

theorem isCall_of_mem_writesOf {p o} (h : o ∈ writesOf p) : o.isCall = false := by
  obtain ⟨op, _, hop⟩ := List.mem_filterMap.mp h
  cases op <;> simp at hop <;> subst hop <;> rfl

theorem mem_evsOf {s e p} : e ∈ evsOf s p ↔ ∃ op ∈ p, op.ev? = some (s, e) := by
  simp only [evsOf, List.mem_filterMap]
  refine exists_congr fun op => and_congr_right fun _ => ?_
  split <;> simp_all

theorem mem_flushCalls (f : Store → List Ev) (s evs) :
    Out.call s evs ∈ flushCalls (f .session) (f .cookie) ↔ evs = f s ∧ (f s).isEmpty = false := by
  cases s <;> simp [flushCalls, and_comm]

theorem not_isWrite_of_mem_pre {p op} (h : op ∈ pre p) : op.isWrite = false := by
  simpa using List.all_eq_true.mp List.all_takeWhile op h

theorem isWrite_of_post_eq_cons {p op rest} (h : post p = op :: rest) : op.isWrite = true := by
  have := List.head?_dropWhile_not (fun op : HOp => !op.isWrite) p
  rw [show p.dropWhile _ = _ from h] at this
  simpa using this

@[simp] theorem writesOf_pre (p) : writesOf (pre p) = [] := by
  refine List.filterMap_eq_nil_iff.mpr fun op h => ?_
  have := not_isWrite_of_mem_pre h
  cases op <;> simp_all [HOp.isWrite]

/-! ### Steps that do not flush -/

/-- What running `p` makes of a live writer when no flush happens on the way: events are
queued, writes go straight through. -/
def W.pass (w : W) (p : List HOp) : W :=
  { w with sessEv := w.sessEv ++ evsOf .session p, cookEv := w.cookEv ++ evsOf .cookie p,
           out := w.out ++ writesOf p }

theorem W.pass_nil (w : W) : w.pass [] = w := by simp [pass, evsOf, writesOf]

theorem W.pass_append (w : W) (p q) : w.pass (p ++ q) = (w.pass p).pass q := by
  simp [pass, evsOf_append, writesOf_append]

theorem exec_dead (c) {w : W} (op) (hd : w.dead = true) : exec c w op = w := by simp [exec, hd]

theorem runFrom_dead (c) (w : W) (p) (hd : w.dead = true) : runFrom c w p = w := by
  induction p with
  | nil => rfl
  | cons op p ih => rw [runFrom_cons, exec_dead c op hd, ih]

/-- `h`: nothing is flushed, because the operation is no write or the flush is behind us. -/
theorem exec_quiet (c) {w : W} {op : HOp} (hd : w.dead = false)
    (h : op.isWrite = true → w.hasWritten = true) : exec c w op = w.pass [op] := by
  cases op with
  | put s _ _ | del s _ => cases s <;> simp [exec, hd, HOp.ev?, addEv, W.pass, evsOf, writesOf]
  | delAll _ => simp [exec, hd, HOp.ev?, addEv, W.pass, evsOf, writesOf]
  | writeHeader _ | write _ => simp [exec, hd, h rfl, W.pass, HOp.ev?, evsOf, writesOf]

theorem runFrom_quiet (c) (w : W) (p : List HOp) (hd : w.dead = false)
    (h : ∀ op ∈ p, op.isWrite = true → w.hasWritten = true) : runFrom c w p = w.pass p := by
  induction p generalizing w with
  | nil => exact w.pass_nil.symm
  | cons op p ih =>
    rw [runFrom_cons, exec_quiet c hd (h op List.mem_cons_self), ih]
    · exact (w.pass_append [op] p).symm
    · exact hd
    · exact fun op hm => h op (List.mem_cons_of_mem _ hm)

theorem run_split (c p) : run c p = runFrom c (W.pass {} (pre p)) (post p) := by
  rw [← runFrom_quiet c {} (pre p) rfl fun op h hw => by simp [not_isWrite_of_mem_pre h] at hw,
    ← runFrom_append, pre, post, List.takeWhile_append_dropWhile, run]

/-! ### The flush -/

theorem flush_ok (w : W) : flush ok w =
    ({ w with hasWritten := true, out := w.out ++ flushCalls w.sessEv w.cookEv }, false) := by
  obtain ⟨h, se, ce, o, d⟩ := w
  cases se <;> cases ce <;> simp [flush, ok, flushCalls]

theorem flush_shape (c : Cfg) (w : W) : ∃ a b : Bool, (flush c w).1 =
    { w with hasWritten := true,
             out := w.out ++ ((if a then [.call .session w.sessEv] else []) ++
                              if b then [.call .cookie w.cookEv] else []) } := by
  obtain ⟨sr, cr, sf, cf⟩ := c
  obtain ⟨hw, se, ce, o, d⟩ := w
  refine ⟨sr && !se.isEmpty, cr && !ce.isEmpty && !(sr && !se.isEmpty && sf), ?_⟩
  cases se <;> cases ce <;> cases sr <;> cases cr <;> cases sf <;> simp [flush]

/-- `x` is the write itself, or `.panic` / `.writeErr` if the flush failed. -/
theorem exec_flush_out (c) {w : W} {op : HOp} (hd : w.dead = false) (hw : w.hasWritten = false)
    (hop : op.isWrite = true) : (exec c w op).hasWritten = true ∧
      ∃ x, x.isCall = false ∧ (exec c w op).out = (flush c w).1.out ++ [x] := by
  obtain ⟨a, b, hf⟩ := flush_shape c w
  cases op <;> simp [HOp.isWrite] at hop <;> simp [exec, hd, hw] <;> split <;>
    simp [hf, Out.isCall]

theorem exec_flush (c) {w : W} {op : HOp} (hd : w.dead = false) (hw : w.hasWritten = false)
    (hop : op.isWrite = true) (hf : (flush c w).2 = false) :
    exec c w op = (flush c w).1.pass [op] := by
  cases op <;> simp [HOp.isWrite] at hop <;>
    simp [exec, hd, hw, hf, W.pass, HOp.ev?, evsOf, writesOf]

/-- No store call after the first write, in any configuration, dead or alive. -/
theorem runFrom_hasWritten (c) (w : W) (p) (hw : w.hasWritten = true) :
    (runFrom c w p).hasWritten = true ∧
      ∃ tail, (∀ o ∈ tail, o.isCall = false) ∧ (runFrom c w p).out = w.out ++ tail := by
  cases hd : w.dead
  · rw [runFrom_quiet c w p hd fun _ _ _ => hw]
    exact ⟨hw, writesOf p, fun o => isCall_of_mem_writesOf, rfl⟩
  · rw [runFrom_dead c w p hd]
    exact ⟨hw, [], by simp⟩

/-- What C11 says in every configuration (stores absent or failing): at most one call per
store, with exactly what was queued for it before the first write, then no further call. -/
theorem run_shape (c p) : ∃ (a b : Bool) (tail : List Out), (∀ o ∈ tail, o.isCall = false) ∧
    (run c p).out = (if a then [.call .session (evsOf .session (pre p))] else []) ++
      (if b then [.call .cookie (evsOf .cookie (pre p))] else []) ++ tail ∧
    ((run c p).hasWritten = false → (run c p).out = []) := by
  rw [run_split]
  match hp : post p with
  | [] => exact ⟨false, false, [], by simp [runFrom, W.pass]⟩
  | op :: rest =>
    obtain ⟨a, b, hf⟩ := flush_shape c (W.pass {} (pre p))
    obtain ⟨hw, x, hx, hx'⟩ :=
      exec_flush_out c (w := W.pass {} (pre p)) rfl rfl (isWrite_of_post_eq_cons hp)
    obtain ⟨hw', tail, ht, ht'⟩ := runFrom_hasWritten c _ rest hw
    rw [runFrom_cons, ht', hx', hf]
    exact ⟨a, b, x :: tail, by simpa [hx] using ht, by simp [W.pass], by simp [hw']⟩

/-- The whole final state where the flush does not fail (stores working or absent). -/
theorem run_of_flush (c p) (hp : (post p).isEmpty = false)
    (hf : (flush c (W.pass {} (pre p))).2 = false) :
    run c p = (flush c (W.pass {} (pre p))).1.pass (post p) := by
  rw [run_split]
  match hq : post p with
  | [] => simp [hq] at hp
  | op :: rest =>
    obtain ⟨a, b, hs⟩ := flush_shape c (W.pass {} (pre p))
    rw [runFrom_cons, exec_flush c rfl rfl (isWrite_of_post_eq_cons hq) hf, hs,
      runFrom_quiet c _ rest rfl fun _ _ _ => rfl, ← W.pass_append]
    rfl

end AuthbossModel.CS
