/-
  `CU h`: handler `h` leaves the context user (`CTXKeyUser`) alone.
-/
import Proofs.Quiet

namespace AuthbossModel.M

/-- `CU h`: `h` leaves the context user alone. -/
def CU {α} (h : H α) : Prop := ∀ c, (h c).2.ctxUser = c.ctxUser

def SameCU (c c' : Ctx) : Prop := c'.ctxUser = c.ctxUser

instance : Pre SameCU := ⟨fun _ => rfl, fun h1 h2 => h2.trans h1⟩

macro_rules | `(tactic| pres_update) => `(tactic| exact (rfl : SameCU _ _))

theorem Pres.cu {α} {h : H α} (hh : Pres SameCU h) : CU h := hh.run

@[pres] theorem SameCU.backend : Pres SameCU M.backend := ⟨fun _ => rfl⟩
@[pres] theorem SameCU.act (a : Act) : Pres SameCU (M.act a) := ⟨fun _ => rfl⟩
@[pres] theorem SameCU.putS (k v) : Pres SameCU (M.putS k v) := SameCU.act _
@[pres] theorem SameCU.delRm : Pres SameCU M.delRm := SameCU.act _
@[pres] theorem SameCU.logf (f a) : Pres SameCU (M.logf f a) := ⟨fun _ => rfl⟩
@[pres] theorem SameCU.render : Pres SameCU M.render := by unfold M.render; pres_auto
@[pres] theorem SameCU.redirect (p ok f fl) : Pres SameCU (M.redirect p ok f fl) := by unfold M.redirect; pres_auto
@[pres] theorem SameCU.smsSendCode (p n) : Pres SameCU (M.smsSendCode p n) := by unfold M.smsSendCode; pres_auto
@[pres] theorem SameCU.totpHijack (b) : Pres SameCU (M.totpHijack b) := by unfold M.totpHijack; pres_auto
@[pres] theorem SameCU.smsHijack (b) : Pres SameCU (M.smsHijack b) := by unfold M.smsHijack; pres_auto
@[pres] theorem SameCU.load (p) : Pres SameCU (M.load p) := by unfold M.load; pres_auto
@[pres] theorem SameCU.save (u) : Pres SameCU (M.save u) := by unfold M.save; pres_auto
@[pres] theorem SameCU.currentUserID : Pres SameCU M.currentUserID := by unfold M.currentUserID; pres_auto
@[pres] theorem SameCU.currentUser : Pres SameCU M.currentUser := by unfold M.currentUser; pres_auto
@[pres] theorem SameCU.rememberAfterReset (b) : Pres SameCU (M.rememberAfterReset b) := by
  unfold M.rememberAfterReset; pres_auto

/-- `fireAfter EventRecoverEnd` (only `remember` listens) leaves the context user alone. -/
theorem SameCU.fireAfter_recoverEnd : Pres SameCU (M.fireAfter .recoverEnd) :=
  Pres.fireAfter fun _ _ hm _ => by
    rcases mem_after hm with ⟨_, h, _⟩ | ⟨_, h, _⟩ | ⟨_, h, _⟩ | ⟨_, h | h, _⟩ | ⟨_, _, rfl⟩ | ⟨_, h | h | h, _⟩ <;>
      first | cases h | simp only [pres]

theorem CU.stop {α} (s) : CU (M.stop s : H α) := (Pres.stop s).cu
theorem CU.fail {α} (e) : CU (M.fail e : H α) := (Pres.fail e).cu
theorem CU.backend : CU M.backend := SameCU.backend.cu
theorem CU.act (a : Act) : CU (M.act a) := (SameCU.act a).cu
theorem CU.logf (f a) : CU (M.logf f a) := (SameCU.logf f a).cu
theorem CU.render : CU M.render := SameCU.render.cu
theorem CU.redirect (p ok f fl) : CU (M.redirect p ok f fl) := (SameCU.redirect p ok f fl).cu
theorem CU.currentUser : CU M.currentUser := SameCU.currentUser.cu

end AuthbossModel.M
