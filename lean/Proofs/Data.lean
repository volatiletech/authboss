/-
  The equations of the model's data structures: association lists keyed by their first
  component (session jars, the browser table), the user table, and the lists that one-time
  values are struck from.
-/
import AuthbossModel.Machine.Step

namespace AuthbossModel.M

/-! ### Association lists -/

section Assoc
variable {κ β : Type} [BEq κ] [LawfulBEq κ] [DecidableEq κ]

theorem find?_filter_key (l : List (κ × β)) (q : κ → Bool) (k : κ) :
    (l.filter (fun x => q x.1)).find? (·.1 == k) = if q k then l.find? (·.1 == k) else none := by
  have : (fun x : κ × β => decide (q x.1 = true ∧ (x.1 == k) = true)) = fun x => q k && x.1 == k := by
    funext x; by_cases h : x.1 = k <;> simp [h]
  rw [List.find?_filter, this]
  cases q k <;> simp

/-- Replacing the entry for `k`, as `Jar.put` and `State.setBrowser` do it. -/
theorem find?_replace_key (l : List (κ × β)) (k k' : κ) (v : β) :
    (l.filter (·.1 != k) ++ [(k, v)]).find? (·.1 == k') =
      if k' = k then some (k, v) else l.find? (·.1 == k') := by
  rw [List.find?_append, find?_filter_key l (· != k)]
  by_cases h : k' = k <;> simp [h, Ne.symm]

end Assoc

/-! ### Session jars -/

theorem Jar.get_filter (j : Jar) (q : SKey → Bool) (k : SKey) :
    Jar.get (j.filter (fun x => q x.1)) k = if q k then j.get k else none := by
  unfold Jar.get
  rw [find?_filter_key]
  split <;> rfl

theorem Jar.get_filter_sub {j : Jar} {q : SKey → Bool} {k : SKey} {v : Bytes}
    (h : Jar.get (j.filter (fun x => q x.1)) k = some v) : j.get k = some v := by
  rw [Jar.get_filter] at h
  split at h <;> simp_all

@[simp] theorem Jar.get_del (j : Jar) (k k' : SKey) :
    (j.del k).get k' = if k' = k then none else j.get k' := by
  simp [Jar.del, Jar.get_filter j (· != k)]

@[simp] theorem Jar.get_delAll (j : Jar) (wl : List SKey) (k : SKey) :
    (j.delAll wl).get k = if k ∈ wl then j.get k else none := by
  unfold Jar.delAll
  rw [Jar.get_filter j wl.contains]
  simp

@[simp] theorem Jar.get_put (j : Jar) (k k' : SKey) (v : Bytes) :
    (j.put k v).get k' = if k' = k then some v else j.get k' := by
  unfold Jar.put Jar.del Jar.get
  rw [find?_replace_key]
  split <;> rfl

/-- What is read after an event was there before, or the event put it. -/
theorem Jar.get_apply {j : Jar} {e : SEv} {k : SKey} {v : Bytes} (h : (j.apply e).get k = some v) :
    j.get k = some v ∨ e = .put k v := by
  cases e <;> simp only [Jar.apply, Jar.get_put, Jar.get_del, Jar.get_delAll] at h <;>
    split at h <;> simp_all

theorem Jar.get_append (j1 j2 : Jar) (k : SKey) :
    Jar.get (j1 ++ j2) k = (Jar.get j1 k).or (Jar.get j2 k) := by
  unfold Jar.get
  rw [List.find?_append]
  cases List.find? (fun x => x.1 == k) j1 <;> simp

/-! ### The browser table -/

@[simp] theorem State.browser_setBrowser (s : State) (b b' : Bytes) (br : Browser) :
    (s.setBrowser b br).browser b' = if b' = b then br else s.browser b' := by
  unfold State.setBrowser State.browser
  simp only [find?_replace_key]
  split <;> rfl

/-! ### The user table -/

/-- Replacing every record keyed like `u` by `u` (the first branch of `Store.upsert`). -/
theorem find?_map_replace (l : List User) (u : User) (q : Bytes) :
    (l.map fun x => if x.pid == u.pid then u else x).find? (·.pid == q) =
      if u.pid = q ∧ l.any (·.pid == u.pid) then some u else l.find? (·.pid == q) := by
  induction l with
  | nil => simp
  | cons x xs ih =>
    by_cases hx : x.pid = u.pid <;> by_cases hq : u.pid = q <;> simp_all [List.find?_cons]

@[simp] theorem Store.find_upsert (s : Store) (u : User) (q : Bytes) :
    (s.upsert u).find q = if u.pid = q then some u else s.find q := by
  unfold Store.upsert Store.find
  split
  next hany => rw [find?_map_replace, hany]; simp
  next hany =>
    -- `u` is appended, and nothing before it has its key
    have hn : s.users.find? (·.pid == u.pid) = none := by simpa using hany
    by_cases hq : u.pid = q
    · simp [← hq, List.find?_append, hn]
    · simp [List.find?_append, hq]

/-! ### One-time values -/

theorem findIdx_mem {l : List Bytes} {x : Bytes} {i : Nat}
    (h : List.findIdx? (fun y => y == x) l = some i) : x ∈ l := by
  simpa using congrArg Option.isSome h

/-- On a non-empty list: the last element overwrites position `i` and is dropped from the
end (for `i` the last position itself, `set` beyond `init` does nothing). -/
theorem swapRemove_concat (init : List Bytes) (last : Bytes) (i : Nat) :
    swapRemove (init ++ [last]) i = init.set i last := by
  simp only [swapRemove, List.getLast?_concat, List.set_append]
  split
  · exact List.dropLast_concat
  next h =>
    rw [List.set_eq_of_length_le (Nat.le_of_not_lt h)]
    cases i - init.length <;> exact List.dropLast_concat

theorem useRecoveryCode_eq (codes : List Bytes) (input : Bytes) :
    useRecoveryCode codes input = if input ∈ codes then some (codes.erase input) else none := by
  have hm : input ∈ codes ↔ (codes.findIdx? (· == input)).isSome := by simp
  simp only [useRecoveryCode, List.erase_eq_eraseIdx, List.idxOf?, hm]
  cases codes.findIdx? (· == input) <;> rfl

end AuthbossModel.M
