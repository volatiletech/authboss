/- Middlewares wrap a handler without writing the identity themselves; `dispatch` is licensed route by route. -/
import Proofs.Login

namespace AuthbossModel.M

variable {I : Ctx → Prop} [Stable I Quiet] {c : Ctx}

theorem accessMW_run (mp reqs fl path rq) {next : H PUnit} (hn : ∀ c, Run I next c) :
    Run I (accessMW mp reqs fl path rq next) c := by
  unfold accessMW
  run_auto
  all_goals exact hn _

theorem moduleMW_run (reqs path) {next : H PUnit} (hn : ∀ c, Run I next c) : Run I (moduleMW reqs path next) c :=
  Run.bind_get (accessMW_run _ _ _ _ _ hn)

theorem verified_run (sms path) {h : H PUnit} (hn : ∀ c, Run I h c) : Run I (verified sms path h) c :=
  moduleMW_run _ _ fun _ => by run_auto; exact hn _

theorem lockMW_run {next : H PUnit} (hn : ∀ c, Run I next c) : Run I (lockMW next) c := by
  unfold lockMW
  run_auto
  exact hn _

theorem confirmMW_run {next : H PUnit} (hn : ∀ c, Run I next c) : Run I (confirmMW next) c := by
  unfold confirmMW
  run_auto
  exact hn _

/-- The licence of a route, evaluated in the context the route handler starts in. -/
def Licensed (rt : Route) (c : Ctx) (U : Bytes) : Prop :=
  match rt with
  | .login => LicLogin c U
  | .otpLogin => LicOtp c U
  | .register => LicRegister c U
  | .recoverEnd => LicRecover c U
  | .oauth2End => LicOAuth c U
  | .totpValidate => LicTotp c U
  | .smsValidate => LicSms c U
  | _ => False

theorem dispatch_run (rt : Route) (c : Ctx) : Run (Sofar (Licensed rt c) c) (dispatch rt) c := by
  unfold dispatch
  refine Run.bind_get (Run.ite (fun _ => Run.pres (Quiet.status _)) fun _ => ?_)
  have q {h : H PUnit} (hq : Pres Quiet h) (c') : Run (Sofar (Licensed rt c) c) h c' := Run.pres hq
  have sms {pg} (hpg : pg ≠ .validate) (c') : Run (Sofar (Licensed rt c) c) (smsPost pg) c' :=
    (smsPost_run pg c').rebase fun _ ⟨_, _, _, h, _⟩ => absurd h hpg
  cases rt with
  | login => exact (authLogin_run c).rebase fun _ ⟨h1, u, h2, h3, h4, _⟩ => ⟨h1, u, h2, h3, h4⟩
  | otpLogin => exact (otpLogin_run c).rebase fun _ ⟨h1, u, _, h2, h3, _⟩ => ⟨h1, u, h2, findIdx_mem h3⟩
  | register => exact register_run c
  | recoverEnd =>
    exact (recoverEnd_run c).rebase fun _ ⟨h1, h2, raw, u, h3, h4, h5, h6, h7, h8, h9, _⟩ =>
      ⟨h1, h2, raw, u, h3, h4, h5, h6, h7, h8, h9⟩
  | oauth2End => exact (oauth2End_run c).rebase fun _ ⟨h1, h2, puid, h3, h4, _⟩ => ⟨h1, h2, puid, h3, h4⟩
  | totpValidate => exact (totpValidate_run c).rebase fun _ ⟨u, c', h1, h2, _⟩ => ⟨u, c', h1, h2⟩
  | smsValidate =>
    exact (smsPost_run .validate c).rebase fun _ ⟨u, c1, h1, h2, u', c', h3, h4, _⟩ =>
      ⟨u, c1, h1, h2, u', c1, c', h3, h4⟩
  | otpAdd => exact moduleMW_run _ _ (q Quiet.otpAddPost)
  | otpClear => exact moduleMW_run _ _ (q Quiet.otpClearPost)
  | confirm => exact q Quiet.confirmGet c
  | recoverStart => exact q Quiet.recoverStartPost c
  | logout => exact q Quiet.logoutHandler c
  | oauth2Start => exact q Quiet.oauth2Start c
  | totpGetSetup => exact verified_run _ _ (q Quiet.totpGetSetup)
  | totpSetup => exact verified_run _ _ (q Quiet.totpPostSetup)
  | totpConfirm => exact verified_run _ _ (q Quiet.totpPostConfirm)
  | totpRemove => exact moduleMW_run _ _ (q Quiet.totpPostRemove)
  | smsGetSetup => exact verified_run _ _ (q Quiet.smsGetSetup)
  | smsSetup => exact verified_run _ _ (q Quiet.smsPostSetup)
  | smsConfirm => exact verified_run _ _ (sms (by decide))
  | smsRemove => exact moduleMW_run _ _ (sms (by decide))
  | recoveryRegen => exact moduleMW_run _ _ (q Quiet.recoveryPostRegen)
  | verifyStart sms =>
    exact Run.ite (fun _ => q (Quiet.status _) c) fun _ => moduleMW_run _ _ (q Quiet.emailVerifyPostStart)
  | verifyEnd sms =>
    exact Run.ite (fun _ => q (Quiet.status _) c) fun _ => moduleMW_run _ _ (q (Quiet.emailVerifyEnd _))
  | protected_ reqs fl mp path => exact accessMW_run _ _ _ _ _ (q Quiet.probe)
  | open_ => exact q Quiet.probe c
  | lockmw => exact lockMW_run (q Quiet.probe)
  | confirmmw => exact confirmMW_run (q Quiet.probe)
  | rootmw => exact confirmMW_run fun _ => lockMW_run (q Quiet.probe)
  | notFound => exact q (Quiet.status _) c

end AuthbossModel.M
