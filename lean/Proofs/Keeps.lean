/-
  What the remember / expire middlewares may change before the route handler runs, and the
  whole stack: `serve` writes an identity only under the remember licence or the route's own.
-/
import Proofs.Dispatch

namespace AuthbossModel.M

/-- What the middlewares in front of a route handler leave alone: the request, the
configuration, the clock, every user record; apart from the half-auth mark (which the remember
middleware adds for the request it authenticates) the session view can only shrink. -/
def MwReach (c c' : Ctx) : Prop :=
  c'.req = c.req ∧ c'.cfg = c.cfg ∧ c'.now = c.now ∧ c'.store.users = c.store.users ∧
  (∀ k v, k ≠ SKey.halfauth → c'.sess.get k = some v → c.sess.get k = some v)

def Keeps {α} (h : H α) : Prop := ∀ c, MwReach c (h c).2

instance : Pre MwReach :=
  ⟨fun _ => ⟨rfl, rfl, rfl, rfl, fun _ _ _ h => h⟩,
   fun ⟨a1, a2, a3, a4, a5⟩ ⟨b1, b2, b3, b4, b5⟩ =>
    ⟨b1.trans a1, b2.trans a2, b3.trans a3, b4.trans a4, fun k v hk h => a5 k v hk (b5 k v hk h)⟩⟩

theorem Pres.keeps {α} {h : H α} (hh : Pres MwReach h) : Keeps h := hh.run

macro_rules | `(tactic| pres_update) => `(tactic| exact (⟨rfl, rfl, rfl, rfl, fun _ _ _ h => h⟩ : MwReach _ _))

@[pres] theorem MwReach.backend : Pres MwReach M.backend := ⟨fun _ => ⟨rfl, rfl, rfl, rfl, fun _ _ _ h => h⟩⟩
@[pres] theorem MwReach.act (a) : Pres MwReach (M.act a) := by unfold M.act; pres_auto
@[pres] theorem MwReach.logf (f a) : Pres MwReach (M.logf f a) := by unfold M.logf; pres_auto
@[pres] theorem MwReach.putS (k v) : Pres MwReach (M.putS k v) := MwReach.act _
@[pres] theorem MwReach.delS (k) : Pres MwReach (M.delS k) := MwReach.act _
@[pres] theorem MwReach.delAllS (wl) : Pres MwReach (M.delAllS wl) := MwReach.act _
@[pres] theorem MwReach.putRm (v) : Pres MwReach (M.putRm v) := MwReach.act _
@[pres] theorem MwReach.delRm : Pres MwReach M.delRm := MwReach.act _
@[pres] theorem MwReach.currentUserID : Pres MwReach M.currentUserID := by unfold M.currentUserID; pres_auto
@[pres] theorem MwReach.useToken (p r) : Pres MwReach (M.useToken p r) := by unfold M.useToken; pres_auto
@[pres] theorem MwReach.refreshExpiry : Pres MwReach M.refreshExpiry := by unfold M.refreshExpiry; pres_auto

/-- The one step that adds to the session view: the half-auth mark of a remember login. -/
theorem MwReach.putHalfauth (c : Ctx) (t p v) :
    MwReach c { c with store := { c.store with tokens := t }, ctxPid := p, sess := c.sess.put .halfauth v } :=
  ⟨rfl, rfl, rfl, rfl, fun k v' hk h => by rw [Jar.get_put, if_neg hk] at h; exact h⟩

/-- Hiding an expired session: the view is restricted to the whitelist. -/
theorem MwReach.hide (c : Ctx) (q : SKey → Bool) :
    MwReach c { c with ctxPid := none, ctxUser := none, sess := c.sess.filter fun p => q p.1 } :=
  ⟨rfl, rfl, rfl, rfl, fun k v _ h => by rw [Jar.get_filter] at h; split at h <;> simp_all⟩

macro_rules | `(tactic| pres_update) => `(tactic| first | exact MwReach.putHalfauth .. | exact MwReach.hide ..)

@[pres] theorem MwReach.rememberAuthenticate : Pres MwReach M.rememberAuthenticate := by
  unfold M.rememberAuthenticate; pres_auto
@[pres] theorem MwReach.rememberMW : Pres MwReach M.rememberMW := by unfold M.rememberMW; pres_auto
@[pres] theorem MwReach.expireMW : Pres MwReach M.expireMW := by unfold M.expireMW; pres_auto

theorem Keeps.fail {α} (e) : Keeps (M.fail e : H α) := (Pres.fail e).keeps
theorem Keeps.backend : Keeps M.backend := MwReach.backend.keeps
theorem Keeps.delAllS (k) : Keeps (M.delAllS k) := (MwReach.delAllS k).keeps
theorem Keeps.useToken (p r) : Keeps (M.useToken p r) := (MwReach.useToken p r).keeps
theorem Keeps.rememberAuthenticate : Keeps M.rememberAuthenticate := MwReach.rememberAuthenticate.keeps

/-! ### The whole stack -/

theorem rememberMW_run (c : Ctx) : Run (Sofar (LicRemember c) c) rememberMW c := by
  unfold rememberMW
  refine Run.bind_pres Quiet.currentUserID fun _ _ h _ => ?_
  cases (by unfold M.currentUserID at h; cases hp : c.ctxPid <;> simp [hp, bind_apply, M.get, pure_apply] at h <;>
    exact h.2 : c = _)
  exact Run.ite
    (fun _ => ((rememberAuthenticate_run c).rebase fun _ ⟨raw, _, h1, h2, h3⟩ =>
      ⟨raw, h1, h2, (useToken_true h3).2.1⟩).swallowErr)
    fun _ => Run.pres (Pres.pure _)

/-- What licenses a new session for `U` in one request: the remember cookie presented by
the browser, or the route's own credential check, evaluated in a context that differs
from the request's initial one only by what the middlewares may change (`MwReach`). -/
def ServeLic (rt : Route) (c0 : Ctx) (U : Bytes) : Prop :=
  LicRemember c0 U ∨ ∃ c1, MwReach c0 c1 ∧ Licensed rt c1 U

theorem serve_safe (rt : Route) (c0 : Ctx) : Safe (ServeLic rt c0) (serve rt) c0 := by
  have disp {c} (hr : MwReach c0 c) : Run (Sofar (ServeLic rt c0) c0) (dispatch rt) c :=
    (dispatch_run rt c).rebase fun _ h => Or.inr ⟨c, hr, h⟩
  have tail {c} (hr : MwReach c0 c) (b : Prop) [Decidable b] :
      Run (Sofar (ServeLic rt c0) c0) (if b then expireMW >>= fun _ => dispatch rt else dispatch rt) c :=
    Run.ite (fun _ => Run.bind_pres Quiet.expireMW fun _ _ h _ => disp (Pre.trans hr (MwReach.expireMW.ok h)))
      fun _ => disp hr
  unfold serve
  exact (Run.bind_get (Run.ite
    (fun _ => Run.bind ((rememberMW_run c0).rebase fun _ => Or.inl) fun _ _ h _ => tail (MwReach.rememberMW.ok h) _)
    fun _ => tail (Pre.refl _) _)).safe

end AuthbossModel.M
