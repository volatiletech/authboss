/-
  Storage changes only on the accepting path.  `Run (Kept P c0) h c0` says: storage after `h` is
  storage before, unless `P` — proved by following `h` over the steps that leave storage alone
  up to the first one that does not, where `P` has to be shown from what the run has passed through.
-/
import Proofs.Safe

namespace AuthbossModel.M

def SameStore (c c' : Ctx) : Prop := c'.store = c.store

instance : Pre SameStore := ⟨fun _ => rfl, fun h1 h2 => h2.trans h1⟩

macro_rules | `(tactic| pres_update) => `(tactic| exact (rfl : SameStore _ _))

@[pres] theorem SameStore.backend : Pres SameStore M.backend := ⟨fun _ => rfl⟩
@[pres] theorem SameStore.act (a) : Pres SameStore (M.act a) := ⟨fun _ => rfl⟩
@[pres] theorem SameStore.putS (k v) : Pres SameStore (M.putS k v) := ⟨fun _ => rfl⟩
@[pres] theorem SameStore.delS (k) : Pres SameStore (M.delS k) := ⟨fun _ => rfl⟩
@[pres] theorem SameStore.logf (f a) : Pres SameStore (M.logf f a) := ⟨fun _ => rfl⟩
@[pres] theorem SameStore.setCtxUser (u) : Pres SameStore (M.setCtxUser u) := ⟨fun _ => rfl⟩
@[pres] theorem SameStore.writeBack (u) : Pres SameStore (M.writeBack u) := Pres.modify fun _ => by split <;> rfl
@[pres] theorem SameStore.load (p) : Pres SameStore (M.load p) := by unfold M.load; pres_auto
@[pres] theorem SameStore.hash : Pres SameStore M.hash := by unfold M.hash; pres_auto
@[pres] theorem SameStore.render : Pres SameStore M.render := by unfold M.render; pres_auto
@[pres] theorem SameStore.respond (p t) : Pres SameStore (M.respond p t) := by unfold M.respond; pres_auto
@[pres] theorem SameStore.redirect (p ok f fl) : Pres SameStore (M.redirect p ok f fl) := by
  unfold M.redirect; pres_auto
@[pres] theorem SameStore.currentUserID : Pres SameStore M.currentUserID := by unfold M.currentUserID; pres_auto
@[pres] theorem SameStore.currentUser : Pres SameStore M.currentUser := by unfold M.currentUser; pres_auto

/-- Storage is as it was in `c0`, unless `P`. -/
def Kept (P : Prop) (c0 c : Ctx) : Prop := c.store = c0.store ∨ P

instance (P : Prop) (c0 : Ctx) : Stable (Kept P c0) SameStore := ⟨fun hs hk => hk.imp_left hs.trans⟩

variable {P : Prop} {c0 c : Ctx} {α : Type} {h : H α}

theorem Run.kept (hr : Run (Kept P c0) h c0) : (h c0).2.store = c0.store ∨ P := hr.run (.inl rfl)

/-- The accepting path: whatever is stored from here on is accounted for. -/
theorem Run.accept (hp : P) : Run (Kept P c0) h c := Run.of_forall fun _ => .inr hp

end AuthbossModel.M
