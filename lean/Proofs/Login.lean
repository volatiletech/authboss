/-
  The eight places the session identity is written: seven route handlers and the remember
  middleware.  For each, one theorem says what the run had passed through by then — the
  credential check (the licence of C01), the event gate that let the account through (C03), the
  successful save that consumed a one-time credential (C12, C18).
-/
import Proofs.Safe
import Proofs.CtxUser
import Proofs.Data

namespace AuthbossModel.M

/-- `Before(e)` ran with `u` as the context user, under the configuration and clock of `c0`, and
reported "not handled". -/
def Gate (e : Ev) (c0 : Ctx) (u : User) : Prop :=
  ∃ c c', c.ctxUser = some u ∧ c.cfg = c0.cfg ∧ c.now = c0.now ∧ fireBefore e c = (.ok false, c')

theorem Gate.intro {P e c0 c c' u b} (hf : fireBefore e c = (.ok b, c')) (hb : ¬b = true)
    (hs : Sofar P c0 c) (hu : c.ctxUser = some u) : Gate e c0 u := by
  cases b
  · exact ⟨c, c', hu, hs.2.2.1, hs.2.2.2, hf⟩
  · exact absurd rfl hb

/-- Some `Save` of this record reported success. -/
def Saved (u : User) : Prop := ∃ c c', M.save u c = (.ok false, c')

theorem Saved.intro {u c c' b} (h : M.save u c = (.ok b, c')) (hb : ¬b = true) : Saved u := by
  cases b
  · exact ⟨c, c', h⟩
  · exact absurd rfl hb

/-! ### auth.LoginPost -/

def LicLogin (c0 : Ctx) (U : Bytes) : Prop :=
  U = c0.req.pid ∧ ∃ u, c0.store.find U = some u ∧ u.pw = c0.req.pw ∧ u.pw ≠ []

def LoginPath (c0 : Ctx) (U : Bytes) : Prop :=
  U = c0.req.pid ∧ ∃ u, c0.store.find U = some u ∧ u.pw = c0.req.pw ∧ u.pw ≠ [] ∧ Gate .auth c0 u

theorem authLogin_run (c0 : Ctx) : Run (Sofar (LoginPath c0) c0) authLoginPost c0 := by
  unfold authLoginPost
  run_auto
  obtain ⟨hfind, rfl⟩ := load_found ‹M.load _ c0 = _›
  have hpw := ‹¬(List.isEmpty _ || _ != c0.req.pw) = true›
  simp at hpw
  have hfb := ‹fireBefore .auth _ = _›
  exact ⟨rfl, _, hfind, hpw.2, hpw.1, Gate.intro hfb ‹_› ‹_› rfl⟩

/-! ### otp.LoginPost -/

def LicOtp (c0 : Ctx) (U : Bytes) : Prop :=
  U = c0.req.pid ∧ ∃ u, c0.store.find U = some u ∧ c0.req.pw ∈ u.otps

def OtpPath (c0 : Ctx) (U : Bytes) : Prop :=
  U = c0.req.pid ∧ ∃ u i, c0.store.find U = some u ∧ u.otps.findIdx? (· == c0.req.pw) = some i ∧
    Saved { u with otps := swapRemove u.otps i } ∧ Gate .auth c0 { u with otps := swapRemove u.otps i }

theorem otpLogin_run (c0 : Ctx) : Run (Sofar (OtpPath c0) c0) otpLoginPost c0 := by
  unfold otpLoginPost
  run_auto
  obtain ⟨hfind, rfl⟩ := load_found ‹M.load _ c0 = _›
  have hsv := ‹M.save _ _ = _›
  have hfb := ‹fireBefore .auth _ = _›
  exact ⟨rfl, _, _, hfind, ‹_›, Saved.intro hsv ‹_›, Gate.intro hfb ‹_› ‹_› ((SameCU.save _).ok hsv)⟩

/-! ### register.Post -/

def LicRegister (c0 : Ctx) (U : Bytes) : Prop :=
  U = c0.req.pid ∧ c0.store.find U = none ∧ c0.req.valid = true

theorem register_run (c0 : Ctx) : Run (Sofar (LicRegister c0) c0) registerPost c0 := by
  unfold registerPost
  run_auto
  cases hash_ok ‹M.hash c0 = _›
  exact ⟨rfl, createUser_created ‹createUser _ _ = _›, by simpa using ‹¬(!c0.req.valid) = true›⟩

/-! ### recover.EndPost -/

def LicRecover (c0 : Ctx) (U : Bytes) : Prop :=
  c0.cfg.recoverLogin = true ∧ c0.req.valid = true ∧
  ∃ raw u, c0.req.token = some raw ∧ raw.length = tokenSize ∧ u ∈ c0.store.users ∧ u.pid = U ∧
    u.recoverSel = some (raw.take 32) ∧ u.recoverVer = some (raw.drop 32) ∧ ¬ (c0.now > u.recoverExpiry)

def RecoverPath (c0 : Ctx) (U : Bytes) : Prop :=
  c0.cfg.recoverLogin = true ∧ c0.req.valid = true ∧
  ∃ raw u, c0.req.token = some raw ∧ raw.length = tokenSize ∧ u ∈ c0.store.users ∧ u.pid = U ∧
    u.recoverSel = some (raw.take 32) ∧ u.recoverVer = some (raw.drop 32) ∧ ¬ (c0.now > u.recoverExpiry) ∧
    Gate .auth c0 { u with pw := c0.req.pw, recoverSel := none, recoverVer := none, recoverExpiry := c0.now }

theorem recoverEnd_run (c0 : Ctx) : Run (Sofar (RecoverPath c0) c0) recoverEndPost c0 := by
  unfold recoverEndPost
  run_auto
  have hfind := ‹List.find? _ c0.store.users = some _›
  have hsv := ‹M.save _ _ = _›
  have hfa := ‹fireAfter .recoverEnd _ = _›
  have hfb := ‹fireBefore .auth _ = _›
  exact ⟨‹_›, by simpa using ‹¬(!c0.req.valid) = true›, _, _, ‹c0.req.token = some _›,
    by simpa using ‹¬(List.length _ != tokenSize) = true›, List.mem_of_find?_eq_some hfind, rfl,
    by simpa using List.find?_some hfind, by simpa using ‹¬(User.recoverVer _ != _) = true›, ‹¬c0.now > _›,
    Gate.intro hfb ‹_› ‹_› (Pre.trans ((SameCU.save _).ok hsv) (SameCU.fireAfter_recoverEnd.ok hfa))⟩

/-! ### oauth2.End -/

def LicOAuth (c0 : Ctx) (U : Bytes) : Prop :=
  c0.sess.get .oauthState = some c0.req.state ∧ c0.req.oerr = [] ∧
  ∃ puid, c0.req.provUid = some puid ∧ U = makeOAuth2PID c0.req.provider puid

/-- … and the account the callback names exists and the gate let it through, or it is being created. -/
def OAuthPath (c0 : Ctx) (U : Bytes) : Prop :=
  c0.sess.get .oauthState = some c0.req.state ∧ c0.req.oerr = [] ∧
  ∃ puid, c0.req.provUid = some puid ∧ U = makeOAuth2PID c0.req.provider puid ∧
    ((∃ u, c0.store.find U = some u ∧
        Gate .oauth2 c0 { u with oauthUid := puid, oauthProvider := c0.req.provider }) ∨
      c0.store.find U = none)

theorem oauth2End_run (c0 : Ctx) : Run (Sofar (OAuthPath c0) c0) oauth2End c0 := by
  unfold oauth2End
  run_auto
  have hfb := ‹fireBefore .oauth2 _ = _›
  have hsess := ‹c0.sess.get .oauthState = some _›
  have hprov := ‹c0.req.provUid = some _›
  have hst := ‹¬(c0.req.state != _) = true›
  simp at hst
  refine ⟨hst ▸ hsess, by simpa using ‹¬(!List.isEmpty c0.req.oerr) = true›, _, hprov, rfl, ?_⟩
  cases hfind : c0.store.find (makeOAuth2PID c0.req.provider _) with
  | none => exact Or.inr rfl
  | some u =>
    rw [hfind] at hfb
    exact Or.inl ⟨u, rfl, Gate.intro hfb ‹_› ‹_› rfl⟩

/-! ### Second-factor validation and the remember middleware

For these three the licence is stated through the success of the verifying
sub-computation (`totpValidate`, `smsVerdict`, `useToken`); what that success means in
terms of the stored secrets is the subject of C02 / C07 / C12. -/

def LicTotp (c0 : Ctx) (U : Bytes) : Prop :=
  ∃ u c', totpValidate c0 = (.ok (some (u, .success)), c') ∧ u.pid = U

def TotpPath (c0 : Ctx) (U : Bytes) : Prop :=
  ∃ u c', totpValidate c0 = (.ok (some (u, .success)), c') ∧ u.pid = U ∧ Gate .auth c0 u

theorem totpValidate_run (c0 : Ctx) : Run (Sofar (TotpPath c0) c0) totpPostValidate c0 := by
  unfold totpPostValidate
  run_auto
  all_goals
    have hv := ‹totpValidate c0 = _›
    have hfb := ‹fireBefore .auth _ = _›
    have hst := ‹¬(_ != TotpStatus.success) = true›
    simp at hst
    subst hst
    exact ⟨_, _, hv, rfl, Gate.intro hfb ‹_› ‹_› rfl⟩

def LicSmsCode (pg : SmsPage) (u : User) (U : Bytes) : Prop :=
  pg = .validate ∧ ∃ u' c2 c3, smsVerdict pg u c2 = (.ok (u', true), c3) ∧ u'.pid = U

def SmsCodePath (pg : SmsPage) (u : User) (c0 : Ctx) (U : Bytes) : Prop :=
  pg = .validate ∧ ∃ u' c', smsVerdict pg u c0 = (.ok (u', true), c') ∧ u'.pid = U ∧ Gate .auth c0 u'

theorem smsValidateCode_run (pg : SmsPage) (u : User) (c0 : Ctx) :
    Run (Sofar (SmsCodePath pg u c0) c0) (smsValidateCode pg u) c0 := by
  unfold smsValidateCode
  run_auto
  have hv := ‹smsVerdict .validate u c0 = _›
  have hfb := ‹fireBefore .auth _ = _›
  have hs := ‹¬(!Prod.snd _) = true›
  simp at hs
  exact ⟨rfl, _, _, by rw [← hs]; exact hv, rfl, Gate.intro hfb ‹_› ‹_› rfl⟩

def LicSms (c0 : Ctx) (U : Bytes) : Prop :=
  ∃ u c1, tfaUser .smsPending c0 = (.ok (.found u), c1) ∧ LicSmsCode .validate u U

def SmsPath (pg : SmsPage) (c0 : Ctx) (U : Bytes) : Prop :=
  ∃ u c1, tfaUser .smsPending c0 = (.ok (.found u), c1) ∧ SmsCodePath pg u c1 U

theorem smsPost_run (pg : SmsPage) (c0 : Ctx) : Run (Sofar (SmsPath pg c0) c0) (smsPost pg) c0 := by
  unfold smsPost
  run_auto
  exact (smsValidateCode_run pg _ _).rebase fun U h => ⟨_, _, ‹tfaUser .smsPending c0 = _›, h⟩

def LicRemember (c0 : Ctx) (U : Bytes) : Prop :=
  ∃ raw, c0.rm = some (.raw raw) ∧ rememberPid raw = some U ∧ (U, raw) ∈ c0.store.tokens

def RememberPath (c0 : Ctx) (U : Bytes) : Prop :=
  ∃ raw c', c0.rm = some (.raw raw) ∧ rememberPid raw = some U ∧ useToken U raw c0 = (.ok (some true), c')

theorem rememberAuthenticate_run (c0 : Ctx) : Run (Sofar (RememberPath c0) c0) rememberAuthenticate c0 := by
  unfold rememberAuthenticate
  run_auto
  exact ⟨_, _, ‹c0.rm = some (.raw _)›, ‹rememberPid _ = some _›, ‹useToken _ _ c0 = _›⟩

end AuthbossModel.M
