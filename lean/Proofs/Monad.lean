/-
  The handler monad as equations: what `>>=`, `pure`, a backend call and the helpers built
  directly on it compute, so that proofs rewrite with these instead of unfolding the model.
-/
import AuthbossModel.Machine.Step
import Proofs.Attr

namespace AuthbossModel.M

@[exec] theorem bind_apply {α β} (m : H α) (f : α → H β) (c : Ctx) :
    (m >>= f) c = match m c with
      | (.ok a, c') => f a c'
      | (.stop s, c') => (.stop s, c') := rfl
@[exec] theorem pure_apply {α} (a : α) (c : Ctx) : (pure a : H α) c = (.ok a, c) := rfl
@[exec] theorem get_apply (c : Ctx) : M.get c = (.ok c, c) := rfl
@[exec] theorem modify_apply (f : Ctx → Ctx) (c : Ctx) : M.modify f c = (.ok ⟨⟩, f c) := rfl
@[exec] theorem stop_apply {α} (s : Stop) (c : Ctx) : (M.stop s : H α) c = (.stop s, c) := rfl
@[exec] theorem fail_apply {α} (e : String) (c : Ctx) : (M.fail e : H α) c = (.stop (.err e), c) := rfl
@[exec] theorem act_apply (a : Act) (c : Ctx) : M.act a c = (.ok ⟨⟩, { c with acts := c.acts ++ [a] }) := rfl
@[exec] theorem putS_apply (k v) (c : Ctx) : M.putS k v c = M.act (.sess (.put k v)) c := rfl
@[exec] theorem delS_apply (k) (c : Ctx) : M.delS k c = M.act (.sess (.del k)) c := rfl
@[exec] theorem delAllS_apply (wl) (c : Ctx) : M.delAllS wl c = M.act (.sess (.delAll wl)) c := rfl
@[exec] theorem putRm_apply (v) (c : Ctx) : M.putRm v c = M.act (.cook (.putRm v)) c := rfl
@[exec] theorem delRm_apply (c : Ctx) : M.delRm c = M.act (.cook .delRm) c := rfl
@[exec] theorem status_apply (n) (c : Ctx) : M.status n c = M.act (.respond (.status n)) c := rfl
@[exec] theorem logf_apply (f a) (c : Ctx) : M.logf f a c = (.ok ⟨⟩, { c with log := c.log ++ [⟨f, a⟩] }) := rfl
@[exec] theorem setCtxUser_apply (u : User) (c : Ctx) :
    M.setCtxUser u c = (.ok ⟨⟩, { c with ctxUser := some u }) := rfl

/-- The fault oracle's answer for the next backend call. -/
def oracle (c : Ctx) : Option ErrKind :=
  match c.fault with
  | some f => if f.idx = c.calls then some f.kind else none
  | none => none

def tick (c : Ctx) : Ctx := { c with calls := c.calls + 1 }

@[exec] theorem backend_eq (c : Ctx) : backend c = (.ok (oracle c), tick c) := rfl

theorem backend_ok {c o c'} (h : backend c = (Res.ok o, c')) : o = oracle c ∧ c' = tick c := by
  rw [backend_eq] at h
  injection h with h1 h2
  injection h1 with h1
  exact ⟨h1.symm, h2.symm⟩

theorem tick_store (c : Ctx) : (tick c).store = c.store := rfl
theorem tick_req (c : Ctx) : (tick c).req = c.req := rfl
theorem tick_sess (c : Ctx) : (tick c).sess = c.sess := rfl

theorem modify_ok {f : Ctx → Ctx} {c a c'} (h : M.modify f c = (Res.ok a, c')) : c' = f c := by
  cases h; rfl

@[exec] theorem load_eq (pid : Bytes) (c : Ctx) : M.load pid c =
    (match oracle c with
     | some .notFound => (.ok .notFound, tick c)
     | some _ => (.ok .error, tick c)
     | none => match c.store.find pid with
       | some u => (.ok (.found u), tick c)
       | none => (.ok .notFound, tick c)) := by
  unfold M.load
  rw [bind_apply, backend_eq]
  cases oracle c with
  | some k => cases k <;> rfl
  | none =>
    show (match (tick c).store.find pid with
          | some u => (pure (LoadRes.found u) : H LoadRes)
          | none => pure LoadRes.notFound) (tick c) = _
    rw [tick_store]
    cases c.store.find pid <;> rfl

/-- A successful `Load` returns what storage holds and spends one backend call. -/
theorem load_found {pid c u c'} (h : M.load pid c = (Res.ok (LoadRes.found u), c')) :
    c.store.find pid = some u ∧ c' = tick c := by
  rw [load_eq] at h
  split at h
  · cases h
  · cases h
  · split at h <;> cases h
    exact ⟨‹_›, rfl⟩

theorem load_store {pid c r c'} (h : M.load pid c = (Res.ok r, c')) : c' = tick c := by
  rw [load_eq] at h
  repeat' split at h
  all_goals cases h; rfl

/-- `Save` spends one backend call; it fails and leaves storage alone, or stores `u`. -/
@[exec] theorem save_eq (u : User) (c : Ctx) : M.save u c =
    match oracle c with
    | some _ => (.ok true, tick c)
    | none => (.ok false, { tick c with store := c.store.upsert u }) := by
  unfold M.save
  rw [bind_apply, backend_eq]
  cases oracle c <;> rfl

@[exec] theorem hash_eq (c : Ctx) : M.hash c = (.ok (oracle c).isSome, tick c) := by
  unfold M.hash
  rw [bind_apply, backend_eq]
  cases oracle c <;> rfl

@[exec] theorem render_eq (c : Ctx) : M.render c = (.ok (oracle c).isSome, tick c) := hash_eq c

@[exec] theorem respond_eq (p : Page) (t : List String) (c : Ctx) : M.respond p t c =
    match oracle c with
    | some _ => (.stop (.err "render"), tick c)
    | none => (.ok ⟨⟩, { tick c with acts := c.acts ++ [.respond (.page p t)] }) := by
  unfold M.respond
  rw [bind_apply, render_eq]
  cases oracle c <;> rfl

theorem hash_ok {c r c'} (h : M.hash c = (r, c')) : c' = tick c := by
  rw [hash_eq] at h; cases h; rfl

@[exec] theorem createUser_eq (u : User) (c : Ctx) : createUser u c =
    match oracle c with
    | some .userFound => (.ok (some false), tick c)
    | some _ => (.ok none, tick c)
    | none =>
      if (c.store.find u.pid).isSome then (.ok (some false), tick c)
      else (.ok (some true), { tick c with store := c.store.upsert u }) := by
  unfold createUser
  rw [bind_apply, backend_eq]
  cases oracle c with
  | some k => cases k <;> rfl
  | none =>
    by_cases hf : (c.store.find u.pid).isSome <;> simp [bind_apply, M.get, M.modify, pure_apply, tick, hf]

theorem createUser_created {u c c'} (h : createUser u c = (Res.ok (some true), c')) :
    c.store.find u.pid = none := by
  rw [createUser_eq] at h
  repeat' split at h
  all_goals first | cases h | skip
  simpa using ‹¬(c.store.find u.pid).isSome = true›

/-- `UseRememberToken`: a fault is reported (or reads as "not found"); otherwise the token is erased
if it is there. -/
@[exec] theorem useToken_eq (pid raw : Bytes) (c : Ctx) : useToken pid raw c =
    match oracle c with
    | some .tokenNotFound => (.ok (some false), tick c)
    | some _ => (.ok none, tick c)
    | none =>
      if (pid, raw) ∈ c.store.tokens then
        (.ok (some true), { tick c with store := { c.store with tokens := c.store.tokens.erase (pid, raw) } })
      else (.ok (some false), tick c) := by
  unfold useToken
  rw [bind_apply, backend_eq]
  cases oracle c with
  | some k => cases k <;> rfl
  | none =>
    by_cases hm : (pid, raw) ∈ c.store.tokens <;> simp [bind_apply, M.get, M.modify, pure_apply, tick, hm]

/-- A successful use: the storage call did not fail, the token was there, one occurrence is gone. -/
theorem useToken_true {pid raw c c'} (h : useToken pid raw c = (Res.ok (some true), c')) :
    oracle c = none ∧ (pid, raw) ∈ c.store.tokens ∧ c'.store.tokens = c.store.tokens.erase (pid, raw) := by
  rw [useToken_eq] at h
  repeat' split at h
  all_goals first | cases h | skip
  exact ⟨‹_›, ‹_›, rfl⟩

@[exec] theorem currentUserID_eq (c : Ctx) :
    M.currentUserID c = (.ok (match c.ctxPid with | some p => p | none => (c.sess.get .uid).getD []), c) := by
  unfold M.currentUserID
  simp only [bind_apply, get_apply]
  cases c.ctxPid <;> rfl

/-- `CurrentUserID`: the id in the request context, else the session's, else none (`[]`). -/
theorem currentUserID_spec (c : Ctx) : ∃ pid, M.currentUserID c = (.ok pid, c) ∧
    (c.ctxPid = some pid ∨ (c.ctxPid = none ∧ (c.sess.get .uid = some pid ∨ pid = []))) := by
  rw [currentUserID_eq]
  cases c.ctxPid with
  | some p => exact ⟨p, rfl, .inl rfl⟩
  | none => cases c.sess.get .uid with
    | some p => exact ⟨p, rfl, .inr ⟨rfl, .inl rfl⟩⟩
    | none => exact ⟨[], rfl, .inr ⟨rfl, .inr rfl⟩⟩

/-- With a user in the request context, `CurrentUser` answers with it. -/
theorem currentUser_ctx {c : Ctx} {u : User} (h : c.ctxUser = some u) :
    M.currentUser c = (.ok (.found u), c) := by
  unfold M.currentUser
  simp only [bind_apply, get_apply, h, pure_apply]

/-- `Load` always answers (an error is an answer) and spends one backend call. -/
theorem load_total (pid : Bytes) (c : Ctx) : ∃ r, M.load pid c = (.ok r, tick c) := by
  rw [load_eq]
  repeat' split
  all_goals exact ⟨_, rfl⟩

/-- `CurrentUser` always answers, and costs at most the one backend call of `Load`. -/
theorem currentUser_total (c : Ctx) : ∃ r c', M.currentUser c = (.ok r, c') ∧ (c' = c ∨ c' = tick c) := by
  unfold M.currentUser
  cases hu : c.ctxUser with
  | some u => exact ⟨_, _, by simp only [bind_apply, get_apply, hu, pure_apply]; rfl, .inl rfl⟩
  | none =>
    obtain ⟨pid, hid, _⟩ := currentUserID_spec c
    simp only [bind_apply, get_apply, hu, hid]
    by_cases hp : pid.isEmpty = true
    · exact ⟨_, _, by rw [if_pos hp]; rfl, .inl rfl⟩
    · obtain ⟨r, h⟩ := load_total pid c
      exact ⟨r, _, by rw [if_neg hp]; exact h, .inr rfl⟩

/-! ### The registration table, read backwards -/

theorem mem_before {u : Unit} {e : Ev} {h : EvHandler} (hm : h ∈ u.before e) :
    (u = .lock ∧ (e = .auth ∨ e = .oauth2) ∧ h = lockUpdate true) ∨ (u = .confirm ∧ e = .auth ∧ h = confirmPrevent) ∨
    (u = .totp ∧ e = .authHijack ∧ h = totpHijack) ∨ (u = .sms ∧ e = .authHijack ∧ h = smsHijack) := by
  unfold Unit.before at hm
  split at hm <;> simp_all

theorem mem_after {u : Unit} {e : Ev} {h : EvHandler} (hm : h ∈ u.after e) :
    (u = .lock ∧ e = .auth ∧ h = lockSuccess) ∨ (u = .lock ∧ e = .authFail ∧ h = lockUpdate false) ∨
    (u = .confirm ∧ e = .register ∧ h = confirmStartWeb) ∨
    (u = .remember ∧ (e = .auth ∨ e = .oauth2) ∧ h = rememberAfterAuth) ∨
    (u = .remember ∧ e = .recoverEnd ∧ h = rememberAfterReset) ∨
    (u = .expire ∧ (e = .auth ∨ e = .oauth2 ∨ e = .register) ∧ h = expireAfterAuth) := by
  unfold Unit.after at hm
  split at hm <;> simp_all

/-! ### The event bus run on a context -/

@[exec] theorem callHandlers_nil (b : Bool) (c : Ctx) : callHandlers [] b c = (.ok b, c) := rfl
@[exec] theorem callHandlers_cons (h : EvHandler) (hs : List EvHandler) (b : Bool) (c : Ctx) :
    callHandlers (h :: hs) b c = (h b >>= fun i => callHandlers hs (b || i)) c := rfl
@[exec] theorem fireBefore_apply (e : Ev) (c : Ctx) :
    fireBefore e c = callHandlers (c.cfg.units.flatMap (·.before e)) false c := rfl
@[exec] theorem fireAfter_apply (e : Ev) (c : Ctx) :
    fireAfter e c = callHandlers (c.cfg.units.flatMap (·.after e)) false c := rfl

/-- An event no shipped unit listens to, whatever is loaded. -/
theorem before_nil {e : Ev} (h1 : e ≠ .auth) (h2 : e ≠ .oauth2) (h3 : e ≠ .authHijack) (us : List Unit) :
    us.flatMap (·.before e) = [] :=
  List.eq_nil_iff_forall_not_mem.mpr fun _ hm => by
    obtain ⟨_, _, hm⟩ := List.mem_flatMap.mp hm
    rcases mem_before hm with ⟨_, h | h, _⟩ | ⟨_, h, _⟩ | ⟨_, h, _⟩ | ⟨_, h, _⟩ <;> contradiction

theorem after_nil {e : Ev} (h1 : e ≠ .auth) (h2 : e ≠ .oauth2) (h3 : e ≠ .authFail) (h4 : e ≠ .register)
    (h5 : e ≠ .recoverEnd) (us : List Unit) : us.flatMap (·.after e) = [] :=
  List.eq_nil_iff_forall_not_mem.mpr fun _ hm => by
    obtain ⟨_, _, hm⟩ := List.mem_flatMap.mp hm
    rcases mem_after hm with ⟨_, h, _⟩ | ⟨_, h, _⟩ | ⟨_, h, _⟩ | ⟨_, h | h, _⟩ | ⟨_, h, _⟩ | ⟨_, h | h | h, _⟩ <;>
      contradiction

end AuthbossModel.M
