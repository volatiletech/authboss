/-
  `NP h`: handler `h` never ends in a panic, and keeps a context user once there is one.
  `NPU h`: the same, provided there is a context user when `h` starts.

  The library panics in three places: `remember.RememberAfterAuth` (`CurrentUserP`), the two
  hijack handlers ("nil user in context") and `lock.Middleware` / `confirm.Middleware`
  (`LoadCurrentUserP`, known finding K3).  The first two are event handlers that every login
  handler fires only after it has put the user into the request context — which is what `NPU`
  and the step from `NP` to `NPU` at `setCtxUser` record.
-/
import Proofs.Veto

namespace AuthbossModel.M

def HasUser (c : Ctx) : Prop := c.ctxUser.isSome = true

def NoPanicAt {α} (h : H α) (c : Ctx) : Prop :=
  (∀ e, (h c).1 ≠ .stop (.panic e)) ∧ (HasUser c → HasUser (h c).2)

def NP {α} (h : H α) : Prop := ∀ c, NoPanicAt h c
def NPU {α} (h : H α) : Prop := ∀ c, HasUser c → NoPanicAt h c

variable {α β : Type}

theorem NP.toNPU {h : H α} (hn : NP h) : NPU h := fun c _ => hn c

theorem NoPanicAt.bind {m : H α} {f : α → H β} {c : Ctx} (hm : NoPanicAt m c)
    (hf : ∀ a c', m c = (.ok a, c') → NoPanicAt (f a) c') : NoPanicAt (m >>= f) c := by
  unfold NoPanicAt at hm ⊢
  rw [bind_apply]
  generalize hmc : m c = r at hm hf
  obtain ⟨_ | s, c'⟩ := r
  · exact ⟨(hf _ c' rfl).1, fun hu => (hf _ c' rfl).2 (hm.2 hu)⟩
  · exact ⟨fun e => by simpa using hm.1 e, hm.2⟩

theorem NP.bind {m : H α} {f : α → H β} (hm : NP m) (hf : ∀ a, NP (f a)) : NP (m >>= f) :=
  fun c => (hm c).bind fun a c' _ => hf a c'

theorem NPU.bind {m : H α} {f : α → H β} (hm : NPU m) (hf : ∀ a, NPU (f a)) : NPU (m >>= f) :=
  fun c hu => (hm c hu).bind fun a c' he => hf a c' (by have := (hm c hu).2 hu; rwa [he] at this)

/-- After `setCtxUser` there is a context user: the rest may rely on it. -/
theorem NP.setCtxUser_bind (u : User) {f : PUnit → H β} (hf : NPU (f ⟨⟩)) : NP (M.setCtxUser u >>= f) :=
  fun c => have h := hf { c with ctxUser := some u } rfl; ⟨h.1, fun _ => h.2 rfl⟩

theorem NP.ite {b : Prop} [Decidable b] {x y : H α} (hx : NP x) (hy : NP y) : NP (if b then x else y) := by
  split <;> assumption
theorem NPU.ite {b : Prop} [Decidable b] {x y : H α} (hx : NPU x) (hy : NPU y) : NPU (if b then x else y) := by
  split <;> assumption

theorem NP.swallowErr {h : H PUnit} (hn : NP h) : NP (M.swallowErr h) := by
  intro c
  have h1 := hn c
  unfold NoPanicAt M.swallowErr at *
  generalize h c = r at h1
  obtain ⟨_ | s, c'⟩ := r
  · exact h1
  · cases s <;> first | exact h1 | exact ⟨nofun, h1.2⟩

theorem NP.modify (f : Ctx → Ctx) (hf : ∀ c, HasUser c → HasUser (f c)) : NP (M.modify f) :=
  fun c => ⟨nofun, hf c⟩

@[np] theorem NP.pure (a : α) : NP (pure a : H α) := fun _ => ⟨nofun, id⟩
@[np] theorem NP.get : NP M.get := fun _ => ⟨nofun, id⟩
@[np] theorem NP.fail (e) : NP (M.fail e : H α) := fun _ => ⟨nofun, id⟩
@[np] theorem NP.stopDone : NP (M.stop .done : H α) := fun _ => ⟨nofun, id⟩
@[np] theorem NP.backend : NP M.backend := fun _ => ⟨nofun, id⟩
@[np] theorem NP.act (a : Act) : NP (M.act a) := NP.modify _ fun _ h => h
@[np] theorem NP.logf (f a) : NP (M.logf f a) := NP.modify _ fun _ h => h
@[np] theorem NP.setCtxUser (u) : NP (M.setCtxUser u) := NP.modify _ fun _ _ => rfl
@[np] theorem NP.writeBack (u) : NP (M.writeBack u) := NP.modify _ fun c h => by
  unfold HasUser at *
  split <;> simp_all
@[np] theorem NP.putS (k v) : NP (M.putS k v) := NP.act _
@[np] theorem NP.delS (k) : NP (M.delS k) := NP.act _
@[np] theorem NP.delAllS (wl) : NP (M.delAllS wl) := NP.act _
@[np] theorem NP.putRm (v) : NP (M.putRm v) := NP.act _
@[np] theorem NP.delRm : NP M.delRm := NP.act _
@[np] theorem NP.status (n) : NP (M.status n) := NP.act _
@[np] theorem NP.probe : NP M.probe := NP.act _

/-- Proves `NP h` / `NPU h` by descent through `>>=`, `if`, `match`, `swallowErr`: from `setCtxUser`
on the continuation is taken with a context user (`NPU`); the leaves are the lemmas tagged `np`,
hypotheses, or a `modify` that leaves the context user alone. -/
macro "np_auto" : tactic => `(tactic|
  repeat' first
    | with_reducible intro _
    | with_reducible apply NP.setCtxUser_bind
    | with_reducible apply NP.bind
    | with_reducible apply NPU.bind
    | with_reducible apply NP.ite
    | with_reducible apply NPU.ite
    | with_reducible apply NP.swallowErr
    | assumption
    | simp only [np, ne_eq, reduceCtorEq, not_false_eq_true]
    | with_reducible apply NP.toNPU
    | ((with_reducible apply NP.modify); exact fun _ h => h)
    | split)

/-! ### Helpers and event handlers -/

@[np] theorem NP.load (pid) : NP (M.load pid) := by unfold M.load; np_auto
@[np] theorem NP.save (u) : NP (M.save u) := by unfold M.save; np_auto
@[np] theorem NP.render : NP M.render := by unfold M.render; np_auto
@[np] theorem NP.hash : NP M.hash := by unfold M.hash; np_auto
@[np] theorem NP.respond (p t) : NP (M.respond p t) := by unfold M.respond; np_auto
@[np] theorem NP.redirect (p ok f fl) : NP (M.redirect p ok f fl) := by unfold M.redirect; np_auto
@[np] theorem NP.currentUserID : NP M.currentUserID := by unfold M.currentUserID; np_auto
@[np] theorem NP.currentUser : NP M.currentUser := by unfold M.currentUser; np_auto
@[np] theorem NP.sendMail (to k tok) : NP (M.sendMail to k tok) := by unfold M.sendMail; np_auto
@[np] theorem NP.createUser (u) : NP (M.createUser u) := by unfold M.createUser; np_auto
@[np] theorem NP.useToken (p r) : NP (M.useToken p r) := by unfold M.useToken; np_auto
@[np] theorem NP.lockUpdate (w b) : NP (M.lockUpdate w b) := by unfold M.lockUpdate; np_auto
@[np] theorem NP.lockSuccess (b) : NP (M.lockSuccess b) := by unfold M.lockSuccess; np_auto
@[np] theorem NP.confirmPrevent (b) : NP (M.confirmPrevent b) := by unfold M.confirmPrevent; np_auto
@[np] theorem NP.startConfirmation (u) : NP (M.startConfirmation u) := by unfold M.startConfirmation; np_auto
@[np] theorem NP.confirmStartWeb (b) : NP (M.confirmStartWeb b) := by unfold M.confirmStartWeb; np_auto
@[np] theorem NP.rememberAfterReset (b) : NP (M.rememberAfterReset b) := by unfold M.rememberAfterReset; np_auto
@[np] theorem NP.refreshExpiry : NP M.refreshExpiry := by unfold M.refreshExpiry; np_auto
@[np] theorem NP.expireAfterAuth (b) : NP (M.expireAfterAuth b) := by unfold M.expireAfterAuth; np_auto
@[np] theorem NP.smsSendCode (p n) : NP (M.smsSendCode p n) := by unfold M.smsSendCode; np_auto

/-- With a context user, `currentUser` answers with it: the branches for other answers are dead. -/
theorem NPU.currentUser_bind {f : LoadRes → H β} (hf : ∀ u, NPU (f (.found u))) : NPU (M.currentUser >>= f) := by
  intro c hu
  obtain ⟨u, hc⟩ := Option.isSome_iff_exists.mp hu
  have hb : (M.currentUser >>= f) c = f (.found u) c := by rw [bind_apply, currentUser_ctx hc]
  unfold NoPanicAt
  rw [hb]
  exact hf u c hu

/-- `get`, then a match on the context user whose `none` branch is the panic. -/
theorem NPU.withCtxUser {β} (f : User → Ctx → H β) (g : Ctx → H β)
    (hf : ∀ u c0, NP (f u c0)) :
    NPU (M.get >>= fun c => match c.ctxUser with | none => g c | some u => f u c) := by
  intro c hu
  obtain ⟨u, hc⟩ := Option.isSome_iff_exists.mp hu
  have hb : (M.get >>= fun c => match c.ctxUser with | none => g c | some u => f u c) c = f u c c := by
    simp only [bind_apply, M.get, hc]
  unfold NoPanicAt
  rw [hb]
  exact hf u c c

@[np] theorem NPU.rememberAfterAuth (b) : NPU (M.rememberAfterAuth b) := by
  unfold M.rememberAfterAuth
  refine NPU.bind NP.get.toNPU fun c => NPU.ite (NP.pure _).toNPU (NPU.ite (NP.pure _).toNPU ?_)
  exact NPU.currentUser_bind fun u => by np_auto

@[np] theorem NPU.totpHijack (b) : NPU (M.totpHijack b) := by
  unfold M.totpHijack
  exact NPU.ite (NP.pure _).toNPU (NPU.withCtxUser _ _ fun u c => by np_auto)

@[np] theorem NPU.smsHijack (b) : NPU (M.smsHijack b) := by
  unfold M.smsHijack
  exact NPU.ite (NP.pure _).toNPU (NPU.withCtxUser _ _ fun u c => by np_auto)

/-! ### The event bus -/

theorem NPU.callHandlers (hs : List EvHandler) (hh : ∀ h ∈ hs, ∀ b, NPU (h b)) (b : Bool) :
    NPU (M.callHandlers hs b) := by
  induction hs generalizing b with
  | nil => exact (NP.pure _).toNPU
  | cons h hs ih => exact NPU.bind (hh h (.head _) b) fun _ => ih (fun h' hm => hh h' (.tail _ hm)) _

theorem NP.callHandlers (hs : List EvHandler) (hh : ∀ h ∈ hs, ∀ b, NP (h b)) (b : Bool) :
    NP (M.callHandlers hs b) := by
  induction hs generalizing b with
  | nil => exact NP.pure _
  | cons h hs ih => exact NP.bind (hh h (.head _) b) fun _ => ih (fun h' hm => hh h' (.tail _ hm)) _

/-- Every registered handler is panic-free given a context user … -/
@[np] theorem NPU.fireBefore (e : Ev) : NPU (M.fireBefore e) :=
  NPU.bind NP.get.toNPU fun _ => NPU.callHandlers _ (fun _ hm _ => by
    obtain ⟨_, _, hm⟩ := List.mem_flatMap.mp hm
    rcases mem_before hm with ⟨_, _, rfl⟩ | ⟨_, _, rfl⟩ | ⟨_, _, rfl⟩ | ⟨_, _, rfl⟩ <;> np_auto) _

@[np] theorem NPU.fireAfter (e : Ev) : NPU (M.fireAfter e) :=
  NPU.bind NP.get.toNPU fun _ => NPU.callHandlers _ (fun _ hm _ => by
    obtain ⟨_, _, hm⟩ := List.mem_flatMap.mp hm
    rcases mem_after hm with ⟨_, _, rfl⟩ | ⟨_, _, rfl⟩ | ⟨_, _, rfl⟩ | ⟨_, _, rfl⟩ | ⟨_, _, rfl⟩ | ⟨_, _, rfl⟩ <;>
      np_auto) _

/-- … and, for the events that no hijacker / remember handler listens to, without one. -/
@[np] theorem NP.fireBefore (e : Ev) (he : e ≠ .authHijack) : NP (M.fireBefore e) :=
  NP.bind NP.get fun _ => NP.callHandlers _ (fun _ hm _ => by
    obtain ⟨_, _, hm⟩ := List.mem_flatMap.mp hm
    rcases mem_before hm with ⟨_, _, rfl⟩ | ⟨_, _, rfl⟩ | ⟨_, h, _⟩ | ⟨_, h, _⟩
    iterate 2 np_auto
    all_goals exact absurd h he) _

@[np] theorem NP.fireAfter (e : Ev) (he : e ≠ .auth) (he2 : e ≠ .oauth2) : NP (M.fireAfter e) :=
  NP.bind NP.get fun _ => NP.callHandlers _ (fun _ hm _ => by
    obtain ⟨_, _, hm⟩ := List.mem_flatMap.mp hm
    rcases mem_after hm with ⟨_, h, _⟩ | ⟨_, _, rfl⟩ | ⟨_, _, rfl⟩ | ⟨_, h | h, _⟩ | ⟨_, _, rfl⟩ | ⟨_, h | h | rfl, rfl⟩
    all_goals first | exact absurd h he | exact absurd h he2 | np_auto) _

/-! ### Route handlers -/

@[np] theorem NP.authLoginPost : NP (M.authLoginPost) := by unfold M.authLoginPost; np_auto
@[np] theorem NP.otpLoginPost : NP (M.otpLoginPost) := by unfold M.otpLoginPost; np_auto
@[np] theorem NP.otpAddPost : NP (M.otpAddPost) := by unfold M.otpAddPost; np_auto
@[np] theorem NP.otpClearPost : NP (M.otpClearPost) := by unfold M.otpClearPost; np_auto
@[np] theorem NP.registerPost : NP (M.registerPost) := by unfold M.registerPost; np_auto
@[np] theorem NP.confirmGet : NP (M.confirmGet) := by unfold M.confirmGet; np_auto
@[np] theorem NP.recoverStartPost : NP (M.recoverStartPost) := by unfold M.recoverStartPost; np_auto
@[np] theorem NP.recoverEndPost : NP (M.recoverEndPost) := by unfold M.recoverEndPost; np_auto
@[np] theorem NP.logoutHandler : NP (M.logoutHandler) := by unfold M.logoutHandler; np_auto
@[np] theorem NP.oauth2Start : NP (M.oauth2Start) := by unfold M.oauth2Start; np_auto
@[np] theorem NP.oauth2End : NP (M.oauth2End) := by unfold M.oauth2End; np_auto
@[np] theorem NP.tfaUser (k) : NP (M.tfaUser k) := by unfold M.tfaUser; np_auto
@[np] theorem NP.totpValidate : NP M.totpValidate := by unfold M.totpValidate; np_auto
@[np] theorem NP.totpPostValidate : NP M.totpPostValidate := by unfold M.totpPostValidate; np_auto
@[np] theorem NP.totpPostSetup : NP M.totpPostSetup := by unfold M.totpPostSetup; np_auto
@[np] theorem NP.totpGetSetup : NP M.totpGetSetup := by unfold M.totpGetSetup; np_auto
@[np] theorem NP.totpPostConfirm : NP M.totpPostConfirm := by unfold M.totpPostConfirm; np_auto
@[np] theorem NP.totpPostRemove : NP M.totpPostRemove := by unfold M.totpPostRemove; np_auto
@[np] theorem NP.smsGetSetup : NP M.smsGetSetup := by unfold M.smsGetSetup; np_auto
@[np] theorem NP.smsPostSetup : NP M.smsPostSetup := by unfold M.smsPostSetup; np_auto
@[np] theorem NP.smsSendCodePage (pg u) : NP (M.smsSendCodePage pg u) := by unfold M.smsSendCodePage; np_auto
@[np] theorem NP.smsVerdict (pg u) : NP (M.smsVerdict pg u) := by unfold M.smsVerdict; np_auto
@[np] theorem NP.smsValidateCode (pg u) : NP (M.smsValidateCode pg u) := by unfold M.smsValidateCode; np_auto
@[np] theorem NP.smsPost (pg) : NP (M.smsPost pg) := by unfold M.smsPost; np_auto
@[np] theorem NP.recoveryPostRegen : NP M.recoveryPostRegen := by unfold M.recoveryPostRegen; np_auto
@[np] theorem NP.emailVerifyPostStart : NP M.emailVerifyPostStart := by unfold M.emailVerifyPostStart; np_auto
@[np] theorem NP.emailVerifyEnd (p) : NP (M.emailVerifyEnd p) := by unfold M.emailVerifyEnd; np_auto
@[np] theorem NP.emailVerifyWrap (k) : NP (M.emailVerifyWrap k) := by unfold M.emailVerifyWrap; np_auto

/-! ### Middlewares, dispatch, the whole stack -/

@[np] theorem NP.loadCurrentUser : NP M.loadCurrentUser := by unfold M.loadCurrentUser; np_auto

theorem NP.accessMW (mp reqs fl path rq) {next : H PUnit} (hn : NP next) : NP (M.accessMW mp reqs fl path rq next) := by
  unfold M.accessMW; np_auto

theorem NP.moduleMW (reqs path) {next : H PUnit} (hn : NP next) : NP (M.moduleMW reqs path next) :=
  NP.bind NP.get fun _ => NP.accessMW _ _ _ _ _ hn

theorem NP.verified (sms path) {h : H PUnit} (hn : NP h) : NP (M.verified sms path h) :=
  NP.moduleMW _ _ (by np_auto)

/-- Every route except the three that are `lock.Middleware` / `confirm.Middleware` themselves. -/
theorem NP.dispatch (rt : Route) (h1 : rt ≠ .lockmw) (h2 : rt ≠ .confirmmw) (h3 : rt ≠ .rootmw) :
    NP (M.dispatch rt) := by
  unfold M.dispatch
  refine NP.bind NP.get fun c => NP.ite (NP.status _) ?_
  cases rt
  case lockmw | confirmmw | rootmw => contradiction
  all_goals
    dsimp only
    first
      | exact NP.moduleMW _ _ (by simp only [np])
      | exact NP.verified _ _ (by simp only [np])
      | exact NP.ite (NP.status _) (NP.moduleMW _ _ (by simp only [np]))
      | exact NP.accessMW _ _ _ _ _ NP.probe
      | simp only [np]

@[np] theorem NP.rememberAuthenticate : NP M.rememberAuthenticate := by unfold M.rememberAuthenticate; np_auto
theorem NP.rememberMW : NP M.rememberMW := by unfold M.rememberMW; np_auto

/-- Plain absence of panics (no bookkeeping about the context user): the expire middleware
clears the context user of an expired session, so it is not `NP`. -/
def NoPanic {α} (h : H α) : Prop := ∀ c e, (h c).1 ≠ .stop (.panic e)

theorem NP.noPanic {h : H α} (hn : NP h) : NoPanic h := fun c e => (hn c).1 e

theorem NoPanic.bind {m : H α} {f : α → H β} (hm : NoPanic m) (hf : ∀ a, NoPanic (f a)) :
    NoPanic (m >>= f) := by
  intro c e
  rw [bind_apply]
  have h1 := hm c e
  generalize m c = r at h1
  obtain ⟨_ | s, c'⟩ := r
  · exact hf _ c' e
  · simpa using h1

theorem NoPanic.ite {b : Prop} [Decidable b] {x y : H α} (hx : NoPanic x) (hy : NoPanic y) :
    NoPanic (if b then x else y) := by
  split <;> assumption

theorem NoPanic.expireMW : NoPanic M.expireMW := by
  unfold M.expireMW
  refine NoPanic.bind NP.get.noPanic fun c => NoPanic.ite (NoPanic.ite ?_ NP.refreshExpiry.noPanic) (NP.pure _).noPanic
  iterate 3 refine NoPanic.bind (NP.act _).noPanic fun _ => ?_
  exact fun _ _ => nofun

/-- **No panic, whole stack.** -/
theorem NoPanic.serve (rt : Route) (h1 : rt ≠ .lockmw) (h2 : rt ≠ .confirmmw) (h3 : rt ≠ .rootmw) :
    NoPanic (M.serve rt) := by
  have hd := (NP.dispatch rt h1 h2 h3).noPanic
  have he (b : Prop) [Decidable b] : NoPanic (if b then (do let _ ← M.expireMW; M.dispatch rt) else M.dispatch rt) :=
    NoPanic.ite (NoPanic.bind NoPanic.expireMW fun _ => hd) hd
  unfold M.serve
  exact NoPanic.bind NP.get.noPanic fun c => NoPanic.ite (NoPanic.bind NP.rememberMW.noPanic fun _ => he _) (he _)

end AuthbossModel.M
