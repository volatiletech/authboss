/-
  `Pres R h`: whatever context the handler `h` starts in, the context it stops in is related to it
  by `R`.  For a preorder `R` this is closed under everything handlers are built from, so that a
  fact of this kind about a handler is read off its text (`pres_auto`).  "Leaves the pending
  identity writes alone", "reads request, configuration and clock only", "only appends acts",
  "leaves the context user alone" are all of this form.
-/
import Proofs.Monad
import Proofs.Attr

namespace AuthbossModel.M

class Pre (R : Ctx → Ctx → Prop) : Prop where
  refl : ∀ c, R c c
  trans : ∀ {a b c}, R a b → R b c → R a c

-- A structure, not a definition: `apply` must never see through it to the function `h`.
structure Pres {α} (R : Ctx → Ctx → Prop) (h : H α) : Prop where
  run : ∀ c, R c (h c).2

namespace Pres
variable {R : Ctx → Ctx → Prop} {α β : Type}

theorem mono {S : Ctx → Ctx → Prop} {h : H α} (hRS : ∀ c c', R c c' → S c c') (hh : Pres R h) : Pres S h :=
  ⟨fun c => hRS _ _ (hh.run c)⟩

theorem ok {h : H α} (hh : Pres R h) {c : Ctx} {r : Res α} {c' : Ctx} (he : h c = (r, c')) : R c c' := by
  have := hh.run c; rwa [he] at this

theorem modify {f : Ctx → Ctx} (hf : ∀ c, R c (f c)) : Pres R (M.modify f) := ⟨hf⟩

theorem ite {b : Prop} [Decidable b] {x y : H α} (hx : Pres R x) (hy : Pres R y) : Pres R (if b then x else y) := by
  split <;> assumption

theorem swallowErr {h : H PUnit} (hh : Pres R h) : Pres R (M.swallowErr h) := by
  refine ⟨fun c => ?_⟩
  have := hh.run c
  unfold M.swallowErr
  generalize h c = r at this
  obtain ⟨_ | s, c'⟩ := r
  · exact this
  · cases s <;> exact this

variable [Pre R]

@[pres] theorem pure (a : α) : Pres R (Pure.pure a : H α) := ⟨Pre.refl⟩
@[pres] theorem get : Pres R M.get := ⟨Pre.refl⟩
@[pres] theorem stop (s) : Pres R (M.stop s : H α) := ⟨Pre.refl⟩
@[pres] theorem fail (e) : Pres R (M.fail e : H α) := ⟨Pre.refl⟩

theorem bind {m : H α} {f : α → H β} (hm : Pres R m) (hf : ∀ a, Pres R (f a)) : Pres R (m >>= f) := by
  refine ⟨fun c => ?_⟩
  rw [bind_apply]
  have h1 := hm.run c
  generalize m c = r at h1
  obtain ⟨_ | _, c'⟩ := r
  · exact Pre.trans h1 ((hf _).run c')
  · exact h1

theorem callHandlers {hs : List EvHandler} (hh : ∀ h ∈ hs, ∀ b, Pres R (h b)) (b : Bool) :
    Pres R (M.callHandlers hs b) := by
  induction hs generalizing b with
  | nil => exact pure _
  | cons h hs ih => exact bind (hh h (by simp) b) fun _ => ih (fun h' hm => hh h' (by simp [hm])) _

theorem fireBefore {e : Ev} (hh : ∀ u, ∀ h ∈ Unit.before u e, ∀ b, Pres R (h b)) : Pres R (M.fireBefore e) :=
  bind get fun _ => callHandlers (fun h hm b => let ⟨u, _, hu⟩ := List.mem_flatMap.mp hm; hh u h hu b) _

theorem fireAfter {e : Ev} (hh : ∀ u, ∀ h ∈ Unit.after u e, ∀ b, Pres R (h b)) : Pres R (M.fireAfter e) :=
  bind get fun _ => callHandlers (fun h hm b => let ⟨u, _, hu⟩ := List.mem_flatMap.mp hm; hh u h hu b) _

end Pres

/-- Closes `R c (f c)` for the update `f` of a bare `modify`; every relation adds its own rule. -/
syntax "pres_update" : tactic

/-- Proves `Pres R h` by descent through `>>=`, `if`, `match` and `swallowErr` down to leaves that are
`pres` lemmas, hypotheses, or a bare `modify`.  The structural rules are applied `with_reducible`:
at default transparency `apply Pres.bind` would unfold a helper such as `load` to find a `>>=` in it. -/
macro "pres_auto" : tactic => `(tactic|
  repeat' first
    | intro _
    | with_reducible apply Pres.bind
    | with_reducible apply Pres.ite
    | with_reducible apply Pres.swallowErr
    | assumption
    | simp only [pres, ne_eq, reduceCtorEq, not_false_eq_true]
    | ((with_reducible refine Pres.modify fun _ => ?_); pres_update)
    | split)

end AuthbossModel.M
