/-
  Quiet computations.  Apart from the seven login handlers and the remember middleware, which
  write the session identity, everything in the machine is *quiet*: it reads request,
  configuration and clock without changing them, it only appends to the pending acts, and none
  of what it appends writes the identity.  Each helper, event handler and route handler is shown
  quiet once; `Frame` (C01), `RO` (C03) and `App` (C14) are the three projections.
-/
import Proofs.Pres

namespace AuthbossModel.M

/-- The user ids written to the session key `uid` by a list of acts. -/
def uidPuts (acts : List Act) : List Bytes :=
  acts.filterMap fun a => match a with
    | .sess (.put .uid v) => some v
    | _ => none

@[simp] theorem uidPuts_append (a b : List Act) : uidPuts (a ++ b) = uidPuts a ++ uidPuts b := by
  simp [uidPuts, List.filterMap_append]

/-- `h` never changes the pending acts' uid writes at all (frame property). -/
def Frame {α} (h : H α) : Prop := ∀ c, uidPuts (h c).2.acts = uidPuts c.acts

def RO {α} (h : H α) : Prop := ∀ c, (h c).2.req = c.req ∧ (h c).2.cfg = c.cfg ∧ (h c).2.now = c.now

def App {α} (h : H α) : Prop := ∀ c, ∃ ext, (h c).2.acts = c.acts ++ ext

/-! The three as relations between the context before and after, and their conjunction. -/

def SameUid (c c' : Ctx) : Prop := uidPuts c'.acts = uidPuts c.acts
def SameReq (c c' : Ctx) : Prop := c'.req = c.req ∧ c'.cfg = c.cfg ∧ c'.now = c.now
def Appended (c c' : Ctx) : Prop := ∃ ext, c'.acts = c.acts ++ ext
def Quiet (c c' : Ctx) : Prop := SameReq c c' ∧ Appended c c' ∧ SameUid c c'

instance : Pre SameUid := ⟨fun _ => rfl, fun h1 h2 => h2.trans h1⟩
instance : Pre SameReq :=
  ⟨fun _ => ⟨rfl, rfl, rfl⟩, fun ⟨a1, a2, a3⟩ ⟨b1, b2, b3⟩ => ⟨b1.trans a1, b2.trans a2, b3.trans a3⟩⟩
instance : Pre Appended :=
  ⟨fun _ => ⟨[], (List.append_nil _).symm⟩, fun ⟨e1, h1⟩ ⟨e2, h2⟩ => ⟨e1 ++ e2, by rw [h2, h1, List.append_assoc]⟩⟩
instance : Pre Quiet :=
  ⟨fun c => ⟨Pre.refl c, Pre.refl c, Pre.refl c⟩,
   fun ⟨a1, a2, a3⟩ ⟨b1, b2, b3⟩ => ⟨Pre.trans a1 b1, Pre.trans a2 b2, Pre.trans a3 b3⟩⟩

variable {α : Type} {h : H α}

theorem Pres.frame (hq : Pres Quiet h) : Frame h := fun c => (hq.run c).2.2
theorem Pres.ro (hq : Pres Quiet h) : RO h := fun c => (hq.run c).1
theorem Pres.app (hq : Pres Quiet h) : App h := fun c => (hq.run c).2.1

/-! ### The primitives -/

theorem Quiet.of_eq {c c' : Ctx} (h1 : c'.req = c.req) (h2 : c'.cfg = c.cfg) (h3 : c'.now = c.now)
    (h4 : c'.acts = c.acts) : Quiet c c' :=
  ⟨⟨h1, h2, h3⟩, ⟨[], by rw [h4, List.append_nil]⟩, congrArg uidPuts h4⟩

macro_rules | `(tactic| pres_update) => `(tactic| exact Quiet.of_eq rfl rfl rfl rfl)
macro_rules | `(tactic| pres_update) => `(tactic| exact (⟨[], (List.append_nil _).symm⟩ : Appended _ _))

/-- Any act other than a write of the session identity. -/
theorem Quiet.act {a : Act} (ha : uidPuts [a] = []) : Pres Quiet (act a) :=
  ⟨fun c => ⟨⟨rfl, rfl, rfl⟩, ⟨[a], rfl⟩, by
    show uidPuts (c.acts ++ [a]) = _
    rw [uidPuts_append, ha, List.append_nil]⟩⟩

@[pres] theorem Quiet.backend : Pres Quiet backend := ⟨fun _ => Quiet.of_eq rfl rfl rfl rfl⟩
@[pres] theorem Quiet.logf (f a) : Pres Quiet (logf f a) := by unfold M.logf; pres_auto
@[pres] theorem Quiet.setCtxUser (u) : Pres Quiet (setCtxUser u) := by unfold M.setCtxUser; pres_auto
@[pres] theorem Quiet.writeBack (u) : Pres Quiet (writeBack u) :=
  Pres.modify fun _ => by split <;> exact Quiet.of_eq rfl rfl rfl rfl
@[pres] theorem Quiet.delS (k) : Pres Quiet (delS k) := Quiet.act rfl
@[pres] theorem Quiet.delAllS (wl) : Pres Quiet (delAllS wl) := Quiet.act rfl
@[pres] theorem Quiet.putRm (v) : Pres Quiet (putRm v) := Quiet.act rfl
@[pres] theorem Quiet.delRm : Pres Quiet delRm := Quiet.act rfl
@[pres] theorem Quiet.status (n) : Pres Quiet (status n) := Quiet.act rfl
@[pres] theorem Quiet.probe : Pres Quiet probe := Quiet.act rfl
@[pres] theorem Quiet.respondAct (r) : Pres Quiet (M.act (Act.respond r)) := Quiet.act rfl
@[pres] theorem Quiet.putS {k : SKey} (v) (hk : k ≠ .uid) : Pres Quiet (putS k v) :=
  Quiet.act (by cases k <;> first | rfl | exact absurd rfl hk)

/-! ### Helpers and event handlers -/

@[pres] theorem Quiet.load (pid) : Pres Quiet (M.load pid) := by unfold M.load; pres_auto
@[pres] theorem Quiet.save (u) : Pres Quiet (M.save u) := by unfold M.save; pres_auto
@[pres] theorem Quiet.render : Pres Quiet M.render := by unfold M.render; pres_auto
@[pres] theorem Quiet.hash : Pres Quiet M.hash := by unfold M.hash; pres_auto
@[pres] theorem Quiet.respond (p t) : Pres Quiet (M.respond p t) := by unfold M.respond; pres_auto
@[pres] theorem Quiet.redirect (p ok f fl) : Pres Quiet (M.redirect p ok f fl) := by
  unfold M.redirect; pres_auto
@[pres] theorem Quiet.currentUserID : Pres Quiet M.currentUserID := by unfold M.currentUserID; pres_auto
@[pres] theorem Quiet.currentUser : Pres Quiet M.currentUser := by unfold M.currentUser; pres_auto
@[pres] theorem Quiet.createUser (u) : Pres Quiet (M.createUser u) := by unfold M.createUser; pres_auto
@[pres] theorem Quiet.useToken (p r) : Pres Quiet (M.useToken p r) := by unfold M.useToken; pres_auto
@[pres] theorem Quiet.sendMail (to k t) : Pres Quiet (M.sendMail to k t) := by unfold M.sendMail; pres_auto
@[pres] theorem Quiet.lockUpdate (w b) : Pres Quiet (M.lockUpdate w b) := by unfold M.lockUpdate; pres_auto
@[pres] theorem Quiet.lockSuccess (b) : Pres Quiet (M.lockSuccess b) := by unfold M.lockSuccess; pres_auto
@[pres] theorem Quiet.confirmPrevent (b) : Pres Quiet (M.confirmPrevent b) := by
  unfold M.confirmPrevent; pres_auto
@[pres] theorem Quiet.startConfirmation (u) : Pres Quiet (M.startConfirmation u) := by
  unfold M.startConfirmation; pres_auto
@[pres] theorem Quiet.confirmStartWeb (b) : Pres Quiet (M.confirmStartWeb b) := by
  unfold M.confirmStartWeb; pres_auto
@[pres] theorem Quiet.rememberAfterAuth (b) : Pres Quiet (M.rememberAfterAuth b) := by
  unfold M.rememberAfterAuth; pres_auto
@[pres] theorem Quiet.rememberAfterReset (b) : Pres Quiet (M.rememberAfterReset b) := by
  unfold M.rememberAfterReset; pres_auto
@[pres] theorem Quiet.refreshExpiry : Pres Quiet M.refreshExpiry := by unfold M.refreshExpiry; pres_auto
@[pres] theorem Quiet.expireAfterAuth (b) : Pres Quiet (M.expireAfterAuth b) := by
  unfold M.expireAfterAuth; pres_auto
@[pres] theorem Quiet.totpHijack (b) : Pres Quiet (M.totpHijack b) := by unfold M.totpHijack; pres_auto
@[pres] theorem Quiet.smsSendCode (p n) : Pres Quiet (M.smsSendCode p n) := by unfold M.smsSendCode; pres_auto
@[pres] theorem Quiet.smsHijack (b) : Pres Quiet (M.smsHijack b) := by unfold M.smsHijack; pres_auto

/-- Whatever units are loaded, in whatever order, the event bus is quiet. -/
@[pres] theorem Quiet.fireBefore (e : Ev) : Pres Quiet (M.fireBefore e) :=
  Pres.fireBefore fun _ _ hm _ => by
    rcases mem_before hm with ⟨_, _, rfl⟩ | ⟨_, _, rfl⟩ | ⟨_, _, rfl⟩ | ⟨_, _, rfl⟩ <;> simp only [pres]

@[pres] theorem Quiet.fireAfter (e : Ev) : Pres Quiet (M.fireAfter e) :=
  Pres.fireAfter fun _ _ hm _ => by
    rcases mem_after hm with ⟨_, _, rfl⟩ | ⟨_, _, rfl⟩ | ⟨_, _, rfl⟩ | ⟨_, _, rfl⟩ | ⟨_, _, rfl⟩ | ⟨_, _, rfl⟩ <;>
      simp only [pres]

/-! ### Route handlers and middlewares that never log anybody in -/

@[pres] theorem Quiet.tfaUser (k) : Pres Quiet (M.tfaUser k) := by unfold M.tfaUser; pres_auto
@[pres] theorem Quiet.totpValidate : Pres Quiet M.totpValidate := by unfold M.totpValidate; pres_auto
@[pres] theorem Quiet.smsVerdict (pg u) : Pres Quiet (M.smsVerdict pg u) := by unfold M.smsVerdict; pres_auto
@[pres] theorem Quiet.smsSendCodePage (pg u) : Pres Quiet (M.smsSendCodePage pg u) := by
  unfold M.smsSendCodePage; pres_auto
@[pres] theorem Quiet.otpAddPost : Pres Quiet M.otpAddPost := by unfold M.otpAddPost; pres_auto
@[pres] theorem Quiet.otpClearPost : Pres Quiet M.otpClearPost := by unfold M.otpClearPost; pres_auto
@[pres] theorem Quiet.confirmGet : Pres Quiet M.confirmGet := by unfold M.confirmGet; pres_auto
@[pres] theorem Quiet.recoverStartPost : Pres Quiet M.recoverStartPost := by unfold M.recoverStartPost; pres_auto
@[pres] theorem Quiet.logoutHandler : Pres Quiet M.logoutHandler := by unfold M.logoutHandler; pres_auto
@[pres] theorem Quiet.oauth2Start : Pres Quiet M.oauth2Start := by unfold M.oauth2Start; pres_auto
@[pres] theorem Quiet.totpPostSetup : Pres Quiet M.totpPostSetup := by unfold M.totpPostSetup; pres_auto
@[pres] theorem Quiet.totpGetSetup : Pres Quiet M.totpGetSetup := by unfold M.totpGetSetup; pres_auto
@[pres] theorem Quiet.totpPostConfirm : Pres Quiet M.totpPostConfirm := by unfold M.totpPostConfirm; pres_auto
@[pres] theorem Quiet.totpPostRemove : Pres Quiet M.totpPostRemove := by unfold M.totpPostRemove; pres_auto
@[pres] theorem Quiet.smsGetSetup : Pres Quiet M.smsGetSetup := by unfold M.smsGetSetup; pres_auto
@[pres] theorem Quiet.smsPostSetup : Pres Quiet M.smsPostSetup := by unfold M.smsPostSetup; pres_auto
@[pres] theorem Quiet.recoveryPostRegen : Pres Quiet M.recoveryPostRegen := by unfold M.recoveryPostRegen; pres_auto
@[pres] theorem Quiet.emailVerifyPostStart : Pres Quiet M.emailVerifyPostStart := by
  unfold M.emailVerifyPostStart; pres_auto
@[pres] theorem Quiet.emailVerifyEnd (p) : Pres Quiet (M.emailVerifyEnd p) := by unfold M.emailVerifyEnd; pres_auto
@[pres] theorem Quiet.emailVerifyWrap (k) : Pres Quiet (M.emailVerifyWrap k) := by unfold M.emailVerifyWrap; pres_auto
@[pres] theorem Quiet.loadCurrentUser : Pres Quiet M.loadCurrentUser := by unfold M.loadCurrentUser; pres_auto
@[pres] theorem Quiet.expireMW : Pres Quiet M.expireMW := by unfold M.expireMW; pres_auto

/-! ### The three projections, under the names the property files use -/

theorem Frame.toPres (hf : Frame h) : Pres SameUid h := ⟨hf⟩
theorem RO.toPres (hr : RO h) : Pres SameReq h := ⟨hr⟩
theorem App.toPres (ha : App h) : Pres Appended h := ⟨ha⟩

theorem Frame.backend : Frame backend := Quiet.backend.frame
theorem Frame.delAllS (wl) : Frame (delAllS wl) := (Quiet.delAllS wl).frame
theorem Frame.status (n) : Frame (status n) := (Quiet.status n).frame
theorem Frame.render : Frame M.render := Quiet.render.frame
theorem Frame.hash : Frame M.hash := Quiet.hash.frame
theorem Frame.respond (p t) : Frame (M.respond p t) := (Quiet.respond p t).frame
theorem Frame.redirect (p ok f fl) : Frame (M.redirect p ok f fl) := (Quiet.redirect p ok f fl).frame
theorem Frame.currentUser : Frame M.currentUser := Quiet.currentUser.frame
theorem Frame.lockUpdate (w h) : Frame (M.lockUpdate w h) := (Quiet.lockUpdate w h).frame
theorem Frame.totpValidate : Frame M.totpValidate := Quiet.totpValidate.frame
theorem Frame.smsVerdict (pg u) : Frame (M.smsVerdict pg u) := (Quiet.smsVerdict pg u).frame
theorem Frame.confirmGet : Frame M.confirmGet := Quiet.confirmGet.frame
theorem Frame.before (u : Unit) (e : Ev) : ∀ h ∈ u.before e, ∀ b, Frame (h b) := fun _ hm _ => by
  rcases mem_before hm with ⟨_, _, rfl⟩ | ⟨_, _, rfl⟩ | ⟨_, _, rfl⟩ | ⟨_, _, rfl⟩ <;>
    exact Pres.frame (by simp only [pres])
theorem Frame.callHandlers (hs : List EvHandler) (hh : ∀ h ∈ hs, ∀ b, Frame (h b)) (b : Bool) :
    Frame (M.callHandlers hs b) :=
  (Pres.callHandlers (fun h hm b => (hh h hm b).toPres) b).run
/-- **Event handlers never establish a session**, whatever units are loaded, in whatever order. -/
theorem Frame.fireBefore (e : Ev) : Frame (M.fireBefore e) := (Quiet.fireBefore e).frame
theorem Frame.fireAfter (e : Ev) : Frame (M.fireAfter e) := (Quiet.fireAfter e).frame

theorem RO.stop {α} (s) : RO (stop s : H α) := (Pres.stop s).ro
theorem RO.fail {α} (e) : RO (fail e : H α) := (Pres.fail e).ro
theorem RO.backend : RO backend := Quiet.backend.ro
theorem RO.logf (f a) : RO (M.logf f a) := (Quiet.logf f a).ro
theorem RO.render : RO M.render := Quiet.render.ro
theorem RO.redirect (p ok f fl) : RO (M.redirect p ok f fl) := (Quiet.redirect p ok f fl).ro
theorem RO.currentUser : RO M.currentUser := Quiet.currentUser.ro
theorem RO.sendMail (to k t) : RO (M.sendMail to k t) := (Quiet.sendMail to k t).ro
theorem RO.lockUpdate (w b) : RO (M.lockUpdate w b) := (Quiet.lockUpdate w b).ro
theorem RO.startConfirmation (u) : RO (M.startConfirmation u) := (Quiet.startConfirmation u).ro
theorem RO.smsSendCode (p n) : RO (M.smsSendCode p n) := (Quiet.smsSendCode p n).ro
theorem RO.callHandlers (hs : List EvHandler) (hh : ∀ h ∈ hs, ∀ b, RO (h b)) (b : Bool) : RO (M.callHandlers hs b) :=
  (Pres.callHandlers (fun h hm b => (hh h hm b).toPres) b).run
theorem RO.fireBefore (e : Ev) : RO (M.fireBefore e) := (Quiet.fireBefore e).ro
theorem RO.fireAfter (e : Ev) : RO (M.fireAfter e) := (Quiet.fireAfter e).ro

theorem App.stop {α} (s) : App (M.stop s : H α) := (Pres.stop s).app
theorem App.fail {α} (e) : App (M.fail e : H α) := (Pres.fail e).app
theorem App.backend : App M.backend := Quiet.backend.app
theorem App.logf (f a) : App (M.logf f a) := (Quiet.logf f a).app
theorem App.setCtxUser (u) : App (M.setCtxUser u) := (Quiet.setCtxUser u).app
theorem App.render : App M.render := Quiet.render.app
theorem App.hash : App M.hash := Quiet.hash.app
theorem App.respond (p t) : App (M.respond p t) := (Quiet.respond p t).app
theorem App.redirect (p ok f fl) : App (M.redirect p ok f fl) := (Quiet.redirect p ok f fl).app
theorem App.currentUser : App M.currentUser := Quiet.currentUser.app
theorem App.lockUpdate (w b) : App (M.lockUpdate w b) := (Quiet.lockUpdate w b).app
theorem App.swallowErr {h : H PUnit} (hn : App h) : App (M.swallowErr h) := hn.toPres.swallowErr.run
theorem App.callHandlers (hs : List EvHandler) (hh : ∀ h ∈ hs, ∀ b, App (h b)) (b : Bool) : App (M.callHandlers hs b) :=
  (Pres.callHandlers (fun h hm b => (hh h hm b).toPres) b).run
theorem App.fireBefore (e : Ev) : App (M.fireBefore e) := (Quiet.fireBefore e).app
theorem App.fireAfter (e : Ev) : App (M.fireAfter e) := (Quiet.fireAfter e).app

end AuthbossModel.M
