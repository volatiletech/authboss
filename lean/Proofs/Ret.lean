/-
  `Ret Q h c`: whenever `h`, started in `c`, returns normally with value `a`, `Q a c'` holds of
  the context `c'` it returns in.  Used to read off what a successful sub-computation (user
  lookup, code verification) guarantees about the context it started in.
-/
import Proofs.Quiet

namespace AuthbossModel.M

def Ret {α} (Q : α → Ctx → Prop) (h : H α) (c : Ctx) : Prop :=
  ∀ a c', h c = (.ok a, c') → Q a c'

/-- Marks the obligations `ret_auto` leaves at the `pure` leaves. -/
def Post {α} (Q : α → Ctx → Prop) (a : α) (c : Ctx) : Prop := Q a c

namespace Ret
variable {α β : Type} {Q : α → Ctx → Prop} {c : Ctx}

theorem mono {Q' : α → Ctx → Prop} {h : H α} (hr : Ret Q h c) (hq : ∀ a c', Q a c' → Q' a c') : Ret Q' h c :=
  fun a c' he => hq a c' (hr a c' he)

theorem pure {a : α} (h : Post Q a c) : Ret Q (pure a : H α) c := by
  intro a' c' he; cases he; exact h

theorem stop (s) (c) : Ret Q (M.stop s : H α) c := fun _ _ he => nomatch he
theorem fail {α} {Q : α → Ctx → Prop} (e) (c) : Ret Q (M.fail e : H α) c := Ret.stop _ _

theorem bind {Q : β → Ctx → Prop} {m : H α} {f : α → H β}
    (hf : ∀ a c', m c = (.ok a, c') → Ret Q (f a) c') : Ret Q (m >>= f) c := by
  intro b c'' he
  rw [bind_apply] at he
  generalize hmc : m c = r at he hf
  obtain ⟨_ | _, c'⟩ := r
  · exact hf _ c' rfl b c'' he
  · cases he

/-- … or, when the outcome of the head is known, from there. -/
theorem bind_eq {Q : β → Ctx → Prop} {m : H α} {f : α → H β} {a c'} (he : m c = (.ok a, c'))
    (hf : Ret Q (f a) c') : Ret Q (m >>= f) c := by
  intro b c'' h
  rw [bind_apply, he] at h
  exact hf b c'' h

theorem bind_get {Q : β → Ctx → Prop} {f : Ctx → H β} (hf : Ret Q (f c) c) : Ret Q (M.get >>= f) c := hf

theorem ite {b : Prop} [Decidable b] {x y : H α} (hx : b → Ret Q x c) (hy : ¬b → Ret Q y c) :
    Ret Q (if b then x else y) c := by
  split
  · exact hx ‹_›
  · exact hy ‹_›

end Ret

/-- Follows `h` along its normal returns: the outcome `m c = (.ok a, c')` of each head is left in
the context, `stop` and `fail` close, and each `pure a` leaves the goal `Post Q a c`. -/
macro "ret_auto" : tactic => `(tactic|
  repeat' first
    | with_reducible intro _
    | exact Ret.stop _ _
    | exact Ret.fail _ _
    | with_reducible apply Ret.pure
    | with_reducible apply Ret.bind_get
    | with_reducible apply Ret.bind
    | with_reducible apply Ret.ite
    | dsimp only
    | split)

end AuthbossModel.M
