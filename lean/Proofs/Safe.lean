/-
  Where can a `PutSession(SessionKey, …)` come from?

  `Safe P h c`: every user id that `h`, started in `c`, adds to the pending session writes either
  was already pending in `c` or satisfies the licence `P`.  It is proved by following `h` from its
  start `c0` (`Run`, with the invariant `Sofar P c0`): quiet steps are stepped over, and at each
  write of the identity the licence has to be shown from what the run has passed through so far.
-/
import Proofs.Quiet

namespace AuthbossModel.M

def Safe {α} (P : Bytes → Prop) (h : H α) (c : Ctx) : Prop :=
  ∀ U ∈ uidPuts (h c).2.acts, U ∈ uidPuts c.acts ∨ P U

theorem Safe.pure {α} (P) (a : α) (c) : Safe P (pure a : H α) c := fun _ hU => Or.inl hU

theorem Safe.mono {α} {P Q : Bytes → Prop} {h : H α} {c} (hs : Safe P h c) (hpq : ∀ U, P U → Q U) :
    Safe Q h c :=
  fun U hU => (hs U hU).imp_right (hpq U)

/-- `Run I h c`: what holds of a run when it reaches `c` — the invariant `I` — still holds where `h`,
started in `c`, stops.  (A structure for the same reason as `Pres`.) -/
structure Run {α} (I : Ctx → Prop) (h : H α) (c : Ctx) : Prop where
  run : I c → I (h c).2

/-- Steps that relate the contexts by `R` do not disturb `I`. -/
class Stable (I : Ctx → Prop) (R : outParam (Ctx → Ctx → Prop)) : Prop where
  stable : ∀ {c c'}, R c c' → I c → I c'

namespace Run
variable {I : Ctx → Prop} {R : Ctx → Ctx → Prop} {c : Ctx} {α β : Type}

theorem bind {m : H α} {f : α → H β} (hm : Run I m c)
    (hf : ∀ a c', m c = (.ok a, c') → I c' → Run I (f a) c') : Run I (m >>= f) c := by
  refine ⟨fun hc => ?_⟩
  have h1 := hm.run hc
  rw [bind_apply]
  generalize hmc : m c = r at h1 hf
  obtain ⟨_ | _, c'⟩ := r
  · exact (hf _ c' rfl h1).run h1
  · exact h1

theorem bind_get {f : Ctx → H β} (hf : Run I (f c) c) : Run I (M.get >>= f) c := ⟨hf.run⟩

theorem ite {b : Prop} [Decidable b] {x y : H α} (hx : b → Run I x c) (hy : ¬b → Run I y c) :
    Run I (if b then x else y) c := by
  split
  · exact hx ‹_›
  · exact hy ‹_›

theorem swallowErr {h : H PUnit} (hr : Run I h c) : Run I (M.swallowErr h) c := by
  refine ⟨fun hc => ?_⟩
  have := hr.run hc
  unfold M.swallowErr
  generalize h c = r at this
  obtain ⟨_ | s, c'⟩ := r
  · exact this
  · cases s <;> exact this

/-- From here on the invariant holds whatever happens. -/
theorem of_forall {h : H α} (hI : ∀ c', I c') : Run I h c := ⟨fun _ => hI _⟩

variable [Stable I R]

theorem pres {h : H α} (hq : Pres R h) : Run I h c := ⟨Stable.stable (hq.run c)⟩

theorem bind_pres {m : H α} {f : α → H β} (hm : Pres R m)
    (hf : ∀ a c', m c = (.ok a, c') → I c' → Run I (f a) c') : Run I (m >>= f) c :=
  bind (pres hm) hf

/-- State-only heads are executed, so that what they set stays visible. -/
theorem bind_modify {g : Ctx → Ctx} {f : PUnit → H β} (hg : R c (g c)) (hf : I (g c) → Run I (f ⟨⟩) (g c)) :
    Run I (M.modify g >>= f) c :=
  ⟨fun hc => (hf (Stable.stable hg hc)).run (Stable.stable hg hc)⟩

theorem bind_setCtxUser {u : User} {f : PUnit → H β} (hg : R c { c with ctxUser := some u })
    (hf : I { c with ctxUser := some u } → Run I (f ⟨⟩) { c with ctxUser := some u }) :
    Run I (setCtxUser u >>= f) c :=
  bind_modify hg hf

end Run

/-- Where a run that started in `c0` stands in `c`: every identity written since is licensed by
`P`, and request, configuration and clock are still those of `c0`. -/
def Sofar (P : Bytes → Prop) (c0 c : Ctx) : Prop :=
  (∀ U ∈ uidPuts c.acts, U ∈ uidPuts c0.acts ∨ P U) ∧ SameReq c0 c

instance (P : Bytes → Prop) (c0 : Ctx) : Stable (Sofar P c0) Quiet :=
  ⟨fun hq hs => ⟨by rw [hq.2.2]; exact hs.1, Pre.trans hs.2 hq.1⟩⟩

namespace Run
variable {P : Bytes → Prop} {c0 c : Ctx} {α : Type}

theorem sofar {h : H α} (hr : Run (Sofar P c0) h c0) : Sofar P c0 (h c0).2 :=
  hr.run ⟨fun _ => Or.inl, Pre.refl _⟩

theorem safe {h : H α} (hr : Run (Sofar P c0) h c0) : Safe P h c0 := hr.sofar.1

/-- A run that is licensed on its own continues any run that has reached its start. -/
theorem rebase {Q : Bytes → Prop} {h : H α} (hr : Run (Sofar Q c) h c) (hq : ∀ U, Q U → P U) :
    Run (Sofar P c0) h c :=
  ⟨fun ⟨h1, h2⟩ => have ⟨r1, r2⟩ := hr.sofar
    ⟨fun U hU => (r1 U hU).elim (h1 U) fun h => Or.inr (hq U h), Pre.trans h2 r2⟩⟩

/-- The one place an obligation arises: the identity written must be licensed. -/
theorem putUid {pid : Bytes} (h : Sofar P c0 c → P pid) : Run (Sofar P c0) (putS .uid pid) c :=
  ⟨fun hc => ⟨fun U hU => by
    have hU : U ∈ uidPuts c.acts ∨ U = pid := by simpa [putS, act, modify, uidPuts] using hU
    rcases hU with hU | rfl
    · exact hc.1 U hU
    · exact Or.inr (h hc), hc.2⟩⟩

end Run

/-- Follows a handler from where it stands: `get`, `setCtxUser` and `modify` are executed, other
heads that do not disturb the invariant are stepped over (their outcome `m c = (.ok a, c')` and the
invariant in `c'` stay in the context), `if` and `match` fork, undisturbing tails close.  For a
licensed run what remains is one goal `Sofar P c0 c → P pid` for each write of the identity; for
`Kept`, the program from the first step that may store something (forked where it forks later). -/
macro "run_auto" : tactic => `(tactic|
  repeat' first
    | intro _
    | with_reducible apply Run.bind_get
    | ((with_reducible apply Run.bind_setCtxUser); · pres_update)
    | ((with_reducible refine Run.bind_modify ?_ ?_); · pres_update)
    | ((with_reducible apply Run.bind_pres); · pres_auto)
    | with_reducible apply Run.bind (Run.putUid ?_)
    | with_reducible apply Run.ite
    | with_reducible apply Run.swallowErr
    | dsimp only
    | split
    | with_reducible apply Run.putUid
    | (refine Run.pres ?_; simp only [pres, ne_eq, reduceCtorEq, not_false_eq_true]; done))

end AuthbossModel.M
