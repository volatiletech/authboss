/- From pending acts to the browser's jar: the session's `uid` can only become `U` through
a pending `put uid U`. -/
import Proofs.Keeps

namespace AuthbossModel.M

theorem uidPuts_sublist {a b : List Act} (h : a.Sublist b) : ∀ U ∈ uidPuts a, U ∈ uidPuts b := by
  intro U hU
  exact (List.Sublist.filterMap _ h).subset hU

theorem applyActs_uid (acts : List Act) (br : Browser) (U : Bytes)
    (h : (applyActs br acts).sess.get .uid = some U) :
    br.sess.get .uid = some U ∨ U ∈ uidPuts acts := by
  induction acts generalizing br with
  | nil => exact .inl h
  | cons a rest ih =>
    -- `h1`: what the jar holds after the first act alone
    rcases ih _ h with h1 | h1
    · cases a with
      | sess e =>
        rcases Jar.get_apply h1 with h2 | rfl
        · exact .inl h2
        · simp [uidPuts]
      | cook e => exact .inl h1
      | respond r => exact .inl h1
    · exact .inr (uidPuts_sublist (List.sublist_cons_self a rest) U h1)

/-- **Step theorem.** If serving one request makes the browser's session name `U` (and it
did not before), the request was licensed for `U`. -/
theorem stepHttp_uid (cfg : Config) (s : State) (b : Bytes) (rt : Route) (req : Req) (fault : Option Fault)
    (U : Bytes)
    (hnew : ((stepHttp cfg s b rt req fault).1.browser b).sess.get .uid = some U)
    (hold : (s.browser b).sess.get .uid ≠ some U) :
    ServeLic rt (initCtx cfg s b req fault) U := by
  unfold stepHttp at hnew
  simp only at hnew
  have hacts0 : uidPuts (initCtx cfg s b req fault).acts = [] := rfl
  generalize initCtx cfg s b req fault = c0 at hnew hacts0 ⊢
  have hsafe : Safe _ _ _ := serve_safe rt c0
  unfold Safe at hsafe
  generalize hsv : serve rt c0 = r at hnew hsafe
  obtain ⟨res, c⟩ := r
  simp only [State.browser_setBrowser, if_true] at hnew
  -- the acts that reach the jar
  have key : ∀ acts, uidPuts acts = uidPuts c.acts →
      ((if (firstResp acts).isSome then applyActs (s.browser b) (effective acts) else s.browser b).sess.get .uid = some U) →
      ServeLic rt c0 U := by
    intro acts hu hj
    by_cases hw : (firstResp acts).isSome = true
    · simp only [hw, if_true] at hj
      rcases applyActs_uid _ _ _ hj with h1 | h1
      · exact absurd h1 hold
      · have h2 : U ∈ uidPuts acts :=
          uidPuts_sublist (List.takeWhile_sublist _) U h1
        rw [hu] at h2
        have := hsafe U (by simpa using h2)
        rcases this with h3 | h3
        · rw [hacts0] at h3; cases h3
        · exact h3
    · simp only [hw] at hj
      exact absurd hj hold
  cases res with
  | ok a => exact key c.acts rfl (by simpa using hnew)
  | stop st =>
    cases st with
    | done => exact key c.acts rfl (by simpa using hnew)
    | panic e => exact key c.acts rfl (by simpa using hnew)
    | err e =>
      by_cases h5 : cfg.err500 = true
      · exact key (c.acts ++ [.respond (.status 500)]) (by simp [uidPuts]) (by simpa [h5] using hnew)
      · exact key c.acts rfl (by simpa [h5] using hnew)

/-- A request from browser `b` leaves every other browser's client state alone. -/
theorem stepHttp_other (cfg : Config) (s : State) (b b' : Bytes) (rt : Route) (req : Req) (fault : Option Fault)
    (h : b' ≠ b) : (stepHttp cfg s b rt req fault).1.browser b' = s.browser b' := by
  unfold stepHttp
  simp only
  rw [State.browser_setBrowser, if_neg h]
  rfl

end AuthbossModel.M
