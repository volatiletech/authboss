/-
  Vetoes: when does the event bus report "handled"?  `Events.call` runs every handler of every
  loaded unit without short-circuiting, so one handler that takes the request over makes the
  whole chain report "handled" wherever it sits in the load order — provided the handlers before
  it leave in place what makes it veto (C02: the hijackers; C03: lock and confirm).
-/
import Proofs.Ret
import Proofs.CtxUser

namespace AuthbossModel.M
attribute [local irreducible] Post

/-- Never returns normally with `false`. -/
def Vetoes (h : H Bool) (c : Ctx) : Prop := ∀ c', h c ≠ (.ok false, c')

theorem callHandlers_true (hs : List EvHandler) (c : Ctx) : Vetoes (callHandlers hs true) c := by
  induction hs generalizing c with
  | nil => intro c' h; cases h
  | cons h hs ih =>
    intro c' he
    unfold callHandlers at he
    rw [bind_apply] at he
    generalize h true c = r at he
    obtain ⟨_ | _, c1⟩ := r
    · exact ih c1 c' he
    · cases he

/-- Reached with "not handled yet", each handler either answers `true` — then the rest cannot undo
it — or `false`, and the chain goes on from where it left off. -/
theorem callHandlers_false {h : EvHandler} {hs c c'} (he : callHandlers (h :: hs) false c = (.ok false, c')) :
    ∃ c1, h false c = (.ok false, c1) ∧ callHandlers hs false c1 = (.ok false, c') := by
  unfold callHandlers at he
  rw [bind_apply] at he
  generalize hr : h false c = r at he
  obtain ⟨_ | _, c1⟩ := r
  · rename_i i
    cases i
    · exact ⟨c1, rfl, he⟩
    · exact absurd he (callHandlers_true hs c1 c')
  · cases he

/-- **Veto at any position.**  If every handler of a chain keeps an invariant `J` while it answers
"not handled", and some handler vetoes whenever it is reached in a `J` context, the chain never
reports "not handled" from a `J` context — wherever in the chain that handler sits. -/
theorem hijack_chain (J : Ctx → Prop) (hs : List EvHandler)
    (hkeep : ∀ h ∈ hs, ∀ c, J c → ∀ c', h false c = (.ok false, c') → J c')
    (hveto : ∃ h ∈ hs, ∀ c, J c → Vetoes (h false) c) :
    ∀ c, J c → Vetoes (callHandlers hs false) c := by
  induction hs with
  | nil => obtain ⟨_, hm, _⟩ := hveto; cases hm
  | cons h hs ih =>
    intro c hj c' he
    obtain ⟨c1, h1, h2⟩ := callHandlers_false he
    obtain ⟨hv, hvm, hvv⟩ := hveto
    rcases List.mem_cons.mp hvm with rfl | hin
    · exact hvv c hj c1 h1
    · exact ih (fun h' hm => hkeep h' (.tail _ hm)) ⟨hv, hin, hvv⟩ c1 (hkeep h (.head _) c hj c1 h1) c' h2

theorem veto_chain (J : Ctx → Prop) (hs : List EvHandler)
    (hkeep : ∀ h ∈ hs, ∀ b c, J c → ∀ r c', h b c = (.ok r, c') → J c')
    (hveto : ∃ h ∈ hs, ∀ b c, J c → Vetoes (h b) c) :
    ∀ b c, J c → Vetoes (callHandlers hs b) c
  | true, c, _ => callHandlers_true hs c
  | false, c, hj =>
    hijack_chain J hs (fun h hm c hj c' => hkeep h hm false c hj false c')
      (hveto.imp fun _ ⟨hm, hv⟩ => ⟨hm, hv false⟩) c hj

/-! ### The lock and confirm handlers, started with a context user -/

/-- On a normal return `lock.updateLockedState` has rewritten the lock fields of the context user,
left the clock alone, and interrupts exactly if the account is locked now. -/
theorem lockUpdate_ret {c : Ctx} {u : User} (hu : c.ctxUser = some u) (w b : Bool) :
    Ret (fun r c' => c'.now = c.now ∧ r = Lock.isLocked c.now (Lock.update (lockCfg c.cfg) c.now w u.lstate) ∧
        c'.ctxUser = some (u.withL (Lock.update (lockCfg c.cfg) c.now w u.lstate)))
      (lockUpdate w b) c := by
  unfold lockUpdate
  refine Ret.bind_eq (currentUser_ctx hu) ?_
  ret_auto
  all_goals
    cases modify_ok ‹M.writeBack _ c = _›
    have hs := ‹M.save _ _ = _›
    have hcu := (SameCU.save _).ok hs
    have hq := (Quiet.save _).ok hs
    simp only [hu] at hcu hq
    unfold Post
  · exact ⟨hq.1.2.2, by simpa using ‹(!Lock.isLocked c.now _) = true›, hcu⟩
  · have hr := ‹M.redirect _ _ _ _ _ = _›
    refine ⟨((Quiet.redirect ..).ok hr).1.2.2.trans hq.1.2.2, ?_, ((SameCU.redirect ..).ok hr).trans hcu⟩
    simpa using ‹¬(!Lock.isLocked c.now _) = true›

theorem confirmPrevent_ret {c : Ctx} {u : User} (hu : c.ctxUser = some u) (b : Bool) :
    Ret (fun r c' => c'.now = c.now ∧ r = !u.confirmed ∧ c'.ctxUser = some u) (confirmPrevent b) c := by
  unfold confirmPrevent
  refine Ret.bind_eq (currentUser_ctx hu) ?_
  ret_auto
  all_goals
    cases modify_ok ‹M.logf _ _ c = _›
    unfold Post
  · exact ⟨rfl, by simp [‹u.confirmed = true›], hu⟩
  · have hr := ‹M.redirect _ _ _ _ _ = _›
    exact ⟨((Quiet.redirect ..).ok hr).1.2.2, by simp [‹¬u.confirmed = true›], ((SameCU.redirect ..).ok hr).trans hu⟩

/-- Fields an invariant on the context user may depend on: everything except the attempt
counter and the last-attempt time (the only fields `lock.BeforeAuth` rewrites). -/
@[reducible] def StableQ (Q : Int → User → Prop) : Prop :=
  ∀ (t : Int) (u : User) (s : Lock.LState), Q t u → Q t (u.withL { s with locked := u.locked })

@[reducible] def UserInv (Q : Int → User → Prop) (c : Ctx) : Prop := ∃ u, c.ctxUser = some u ∧ Q c.now u

/-- `Before(EventAuth)` / `Before(EventOAuth2)` never report "not handled" from a context whose user
satisfies a stable `Q` under which one of the registered handlers vetoes. -/
theorem fireBefore_vetoes (e : Ev) (he : e = .auth ∨ e = .oauth2) (Q : Int → User → Prop) (hQ : StableQ Q)
    (vetoer : EvHandler) (hv : ∀ c, UserInv Q c → Vetoes (vetoer false) c)
    (c : Ctx) (hreg : ∃ u ∈ c.cfg.units, vetoer ∈ u.before e) (hi : UserInv Q c) :
    Vetoes (fireBefore e) c := by
  refine hijack_chain (UserInv Q) _ ?_ ?_ c hi
  · intro h hm c0 ⟨u, hu, hq⟩ c1 hr
    obtain ⟨_, _, hm⟩ := List.mem_flatMap.mp hm
    rcases mem_before hm with ⟨_, _, rfl⟩ | ⟨_, _, rfl⟩ | ⟨_, h, _⟩ | ⟨_, h, _⟩
    · obtain ⟨h1, _, h3⟩ := lockUpdate_ret hu true false _ _ hr
      exact ⟨_, h3, h1 ▸ hQ c0.now u ⟨u.attempts, c0.now, u.locked⟩ hq⟩
    · obtain ⟨h1, _, h3⟩ := confirmPrevent_ret hu false _ _ hr
      exact ⟨u, h3, h1 ▸ hq⟩
    all_goals rcases he with rfl | rfl <;> cases h
  · obtain ⟨u, hu, hm⟩ := hreg
    exact ⟨vetoer, List.mem_flatMap.mpr ⟨u, hu, hm⟩, hv⟩

end AuthbossModel.M
