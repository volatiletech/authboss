/-
  C01 — A logged-in session is only ever issued against a valid credential of that user.

  Model: the whole request pipeline (`stepHttp`: LoadClientState → remember middleware →
  expire middleware → route → flush of the pending client-state events), for every
  configuration (every subset and load order of units), every state, every request and
  every fault oracle.
-/
import Proofs.StepUid

namespace AuthbossModel.M

/-- **C01_step.** One operation. If after it browser `b`'s session names user `U` and it did
not before, then the operation was an HTTP request *by `b`* and that request was licensed
for `U`: it carried `U`'s valid remember token, or its route's own credential check for
`U` succeeded (see `C01_licence_*` for what that means per route). -/
theorem C01_step (cfg : Config) (s : State) (op : Op) (b U : Bytes)
    (hreal : ∀ b' j, op ≠ .setSess b' j)   -- `setSess` is the harness' state-injection shortcut, not an operation of the system
    (hnew : ((step cfg s op).1.browser b).sess.get .uid = some U)
    (hold : (s.browser b).sess.get .uid ≠ some U) :
    ∃ rt req fault, op = .http b rt req fault ∧ ServeLic rt (initCtx cfg s b req fault) U := by
  cases op with
  | http b' rt req fault =>
    by_cases hb : b = b'
    · subst hb
      exact ⟨rt, req, fault, rfl, stepHttp_uid cfg s b rt req fault U (by simpa [step] using hnew) hold⟩
    · have := stepHttp_other cfg s b' b rt req fault hb
      simp only [step] at hnew
      rw [this] at hnew
      exact absurd hnew hold
  | advance d => exact absurd (by simpa [step, State.browser] using hnew) hold
  | apiLock pid =>
    simp only [step, withUser] at hnew
    split at hnew <;> exact absurd (by simpa [State.browser] using hnew) hold
  | apiUnlock pid =>
    simp only [step, withUser] at hnew
    split at hnew <;> exact absurd (by simpa [State.browser] using hnew) hold
  | apiUpdatePassword pid pw =>
    simp only [step] at hnew
    split at hnew <;> exact absurd (by simpa [State.browser] using hnew) hold
  | setCookie b' ck =>
    simp only [step, State.browser_setBrowser] at hnew
    split at hnew
    next hb => subst hb; exact absurd hnew hold
    next => exact absurd hnew hold
  | seedUser u => exact absurd (by simpa [step, State.browser] using hnew) hold
  | setSess b' j => exact absurd rfl (hreal b' j)

/-- **C01_history.** Along every history, every point at which a browser's session starts
naming `U` is an HTTP request of that browser licensed for `U` in the state just before it. -/
theorem C01_history (cfg : Config) (s0 : State) (pre : List Op) (op : Op) (b U : Bytes)
    (hreal : ∀ b' j, op ≠ .setSess b' j)
    (hnew : ((run cfg s0 (pre ++ [op])).browser b).sess.get .uid = some U)
    (hold : ((run cfg s0 pre).browser b).sess.get .uid ≠ some U) :
    ∃ rt req fault, op = .http b rt req fault ∧
      ServeLic rt (initCtx cfg (run cfg s0 pre) b req fault) U := by
  have : run cfg s0 (pre ++ [op]) = (step cfg (run cfg s0 pre) op).1 := by
    simp [run, List.foldl_append]
  rw [this] at hnew
  exact C01_step cfg _ op b U hreal hnew hold

/-- **C01_event_handlers.** No event handler of any unit — whatever is loaded, in whatever
order — ever establishes a session: `FireBefore`/`FireAfter` leave the pending `uid` writes
exactly as they were. -/
theorem C01_event_handlers (e : Ev) (c : Ctx) :
    uidPuts (fireBefore e c).2.acts = uidPuts c.acts ∧ uidPuts (fireAfter e c).2.acts = uidPuts c.acts :=
  ⟨Frame.fireBefore e c, Frame.fireAfter e c⟩

/-! ### What the licences say (definitional unfoldings, for the reader) -/

theorem C01_licence_password (c : Ctx) (U : Bytes) :
    Licensed .login c U ↔ U = c.req.pid ∧ ∃ u, c.store.find U = some u ∧ u.pw = c.req.pw ∧ u.pw ≠ [] := Iff.rfl

theorem C01_licence_otp (c : Ctx) (U : Bytes) :
    Licensed .otpLogin c U ↔ U = c.req.pid ∧ ∃ u, c.store.find U = some u ∧ c.req.pw ∈ u.otps := Iff.rfl

theorem C01_licence_register (c : Ctx) (U : Bytes) :
    Licensed .register c U ↔ U = c.req.pid ∧ c.store.find U = none ∧ c.req.valid = true := Iff.rfl

theorem C01_licence_recover (c : Ctx) (U : Bytes) :
    Licensed .recoverEnd c U ↔
      c.cfg.recoverLogin = true ∧ c.req.valid = true ∧
      ∃ raw u, c.req.token = some raw ∧ raw.length = tokenSize ∧ u ∈ c.store.users ∧ u.pid = U ∧
        u.recoverSel = some (raw.take 32) ∧ u.recoverVer = some (raw.drop 32) ∧ ¬ (c.now > u.recoverExpiry) := Iff.rfl

theorem C01_licence_oauth2 (c : Ctx) (U : Bytes) :
    Licensed .oauth2End c U ↔
      c.sess.get .oauthState = some c.req.state ∧ c.req.oerr = [] ∧
      ∃ puid, c.req.provUid = some puid ∧ U = makeOAuth2PID c.req.provider puid := Iff.rfl

theorem C01_licence_remember (c : Ctx) (U : Bytes) :
    LicRemember c U ↔ ∃ raw, c.rm = some (.raw raw) ∧ rememberPid raw = some U ∧ (U, raw) ∈ c.store.tokens := Iff.rfl

/-- Every other route (logout, recover start, confirm, OTP management, 2FA setup /
confirm / remove / regenerate, e-mail verification, protected routes, unknown routes)
licenses nobody. -/
theorem C01_no_other_route (rt : Route) (c : Ctx) (U : Bytes)
    (h : rt ≠ .login ∧ rt ≠ .otpLogin ∧ rt ≠ .register ∧ rt ≠ .recoverEnd ∧ rt ≠ .oauth2End ∧
         rt ≠ .totpValidate ∧ rt ≠ .smsValidate) : ¬ Licensed rt c U := by
  cases rt <;> simp_all [Licensed]

/-- `MwReach` (the only way the licensing context may differ from the request's initial
context) keeps the request, the configuration, the clock and every user record. -/
theorem C01_mwreach (c c' : Ctx) (h : MwReach c c') :
    c'.req = c.req ∧ c'.cfg = c.cfg ∧ c'.now = c.now ∧ c'.store.users = c.store.users ∧
    (∀ k v, k ≠ SKey.halfauth → c'.sess.get k = some v → c.sess.get k = some v) := h

/-! ### Non-vacuity (concrete reachable states; these are tests of the model, evaluated by the kernel) -/

def nvCfg : Config := { units := [.auth, .lock, .confirm, .remember, .otp], lockAfter := 3, lockWindow := 100, lockDuration := 100 }
def nvUser : User := { pid := lit "a@x.c", pw := lit "pw", confirmed := true, otps := [lit "o1", lit "o2"] }

/-- The hypotheses of `C01_step` are met by a real login, and the conclusion's licence is the password one. -/
example : ((run nvCfg {} [.seedUser nvUser, .http (lit "b1") .login { pid := lit "a@x.c", pw := lit "pw" } none]).browser
    (lit "b1")).sess.get .uid = some (lit "a@x.c") := by decide +kernel

/-- A wrong password leaves the session without identity. -/
example : ((run nvCfg {} [.seedUser nvUser, .http (lit "b1") .login { pid := lit "a@x.c", pw := lit "nope" } none]).browser
    (lit "b1")).sess.get .uid = none := by decide +kernel

set_option maxHeartbeats 2000000 in
/-- A one-time password logs in once; replaying it does not (second browser stays anonymous). -/
example :
    let s := run nvCfg {} [.seedUser nvUser,
      .http (lit "b1") .otpLogin { pid := lit "a@x.c", pw := lit "o1" } none,
      .http (lit "b2") .otpLogin { pid := lit "a@x.c", pw := lit "o1" } none]
    ((s.browser (lit "b1")).sess.get .uid, (s.browser (lit "b2")).sess.get .uid) = (some (lit "a@x.c"), none) := by decide +kernel

end AuthbossModel.M
