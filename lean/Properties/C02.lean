/-
  C02 — With a second factor enabled, password knowledge alone never yields a session.

  `Before(EventAuthHijack)` is the hook the totp2fa / sms2fa units use.  The chain theorem
  (`hijack_chain`) gives order-independence: whichever of the two is loaded first takes
  the login over; if both are loaded and the account has both factors the first in load
  order wins, and in every case the chain never reports "not handled".
-/
import Proofs.Veto
import Proofs.Dispatch
import Properties.C12

namespace AuthbossModel.M
attribute [local irreducible] Post

/-- The account in the request context has a TOTP secret. -/
def HasTotp (c : Ctx) : Prop := ∃ u, c.ctxUser = some u ∧ u.totpSecret ≠ []
/-- The account in the request context has an SMS number. -/
def HasSms (c : Ctx) : Prop := ∃ u, c.ctxUser = some u ∧ u.smsNumber ≠ []

/-- `totp2fa.HijackAuth` takes over (or fails) when nobody has yet and the account has a secret. -/
theorem totpHijack_vetoes (c : Ctx) (h : HasTotp c) : Vetoes (totpHijack false) c := by
  obtain ⟨u, hu, hs⟩ := h
  intro c' he
  unfold totpHijack at he
  simp only [Bool.false_eq_true, if_false, bind_apply, M.get, hu] at he
  have hne : u.totpSecret.isEmpty = false := by
    cases h : u.totpSecret.isEmpty
    · rfl
    · exact absurd (List.isEmpty_iff.mp h) hs
  simp only [hne, Bool.false_eq_true, if_false, bind_apply, M.putS, M.act, M.modify] at he
  generalize M.redirect _ _ _ _ _ = rr at he
  obtain ⟨res, c1⟩ := rr
  cases res <;> simp [pure_apply] at he

/-- **C02_totp_parks.** With the totp unit loaded *first among the hijackers* — or alone —
`Before(EventAuthHijack)` never reports "not handled" for an account with a TOTP secret: the
primary login (password, OTP, recover-and-login all call it before writing the session)
stops there. -/
theorem C02_totp_parks (c : Ctx) (h : HasTotp c) (hs : List EvHandler) :
    Vetoes (callHandlers (totpHijack :: hs) false) c :=
  fun _ he => have ⟨c1, h1, _⟩ := callHandlers_false he; totpHijack_vetoes c h c1 h1

/-- The parking writes the pending key, never the identity: both hijack handlers are frames
for the session identity (already part of `C01_event_handlers`), restated here. -/
theorem C02_hijack_never_logs_in (b : Bool) (c : Ctx) :
    uidPuts (totpHijack b c).2.acts = uidPuts c.acts ∧ uidPuts (smsHijack b c).2.acts = uidPuts c.acts :=
  ⟨(Quiet.totpHijack b).frame c, (Quiet.smsHijack b).frame c⟩

/-- **C02_completion (TOTP / recovery code).** The TOTP validation step sets the identity only
through a successful `totpValidate` — see `C01_step` (`LicTotp`); and `totpValidate` succeeds
with a code only if that code is valid *for the secret of the user it resolved*, or with a
recovery code only if it is one of that user's stored codes (in which case it is removed and
saved first).  Stated on the pure verification function: -/
theorem C02_recovery_code_must_be_stored (codes : List Bytes) (input : Bytes) (rest : List Bytes)
    (h : useRecoveryCode codes input = some rest) : input ∈ codes ∧ rest.length + 1 = codes.length :=
  C12_recovery_removes_one codes rest input h

/-- An empty stored recovery-code field matches nothing (the `[""]` regression class: the
model decodes `""` to the empty list, and an empty submitted code is never looked up because
the handlers only consult recovery codes for a non-empty `recovery_code` value). -/
theorem C02_no_codes_no_match (input : Bytes) : useRecoveryCode [] input = none := rfl

/-- **C02_sms_witness (known finding F9).** In the model, as in the code, the SMS code check
compares the submitted code with the code held in the *session*, whoever it was sent to:
the verdict does not depend on the pending user at all. -/
theorem C02_sms_verdict_ignores_user (u v : User) (c : Ctx) (hr : c.req.rcode = []) :
    ((smsVerdict .validate u c).1, (smsVerdict .validate v c).1) =
    (match (smsVerdict .validate u c).1 with
      | .ok (_, b) => (.ok (u, b), .ok (v, b))
      | .stop s => (.stop s, .stop s)) := by
  unfold smsVerdict
  simp only [bind_apply, M.get, hr, List.isEmpty_nil, Bool.not_true, Bool.false_and, Bool.false_eq_true, if_false]
  cases c.sess.get .smsSecret with
  | none => simp [M.fail, M.stop]
  | some code => by_cases h : code.isEmpty = true <;> simp [h, M.fail, M.stop, pure_apply]


/-! ### The SMS hijacker, and any load order -/

/-- `sms2fa.HijackAuth` takes over (or fails) when nobody has yet and the account has a number. -/
theorem smsHijack_vetoes (c : Ctx) (h : HasSms c) : Vetoes (smsHijack false) c := by
  obtain ⟨u, hu, hs⟩ := h
  intro c' he
  unfold smsHijack at he
  simp only [Bool.false_eq_true, if_false, bind_apply, M.get, hu] at he
  have hne : u.smsNumber.isEmpty = false := by
    cases h : u.smsNumber.isEmpty
    · rfl
    · exact absurd (List.isEmpty_iff.mp h) hs
  simp only [hne, Bool.false_eq_true, if_false, bind_apply, M.putS, M.act, M.modify] at he
  generalize M.smsSendCode _ _ _ = rr at he
  obtain ⟨res, c1⟩ := rr
  cases res with
  | stop s => simp at he
  | ok r =>
    cases r <;> simp only [M.fail, M.stop, bind_apply] at he
    all_goals first
      | (simp at he; done)
      | (generalize M.redirect _ _ _ _ _ = r2 at he
         obtain ⟨res2, c2⟩ := r2
         cases res2 <;> simp [pure_apply] at he)

/-- **C02_sms_parks.** Same for the SMS unit at the head of the hijackers. -/
theorem C02_sms_parks (c : Ctx) (h : HasSms c) (hs : List EvHandler) :
    Vetoes (callHandlers (smsHijack :: hs) false) c :=
  fun _ he => have ⟨c1, h1, _⟩ := callHandlers_false he; smsHijack_vetoes c h c1 h1

/-- **C02_parks_any_order.** Whatever else is loaded and in whatever order: with the totp unit
loaded and a TOTP secret on the account (or the sms unit and a number), `Before(EventAuthHijack)`
never reports "not handled" — the primary login stops and the session identity is not written. -/
theorem C02_parks_any_order (c : Ctx)
    (h : (c.cfg.has .totp = true ∧ HasTotp c) ∨ (c.cfg.has .sms = true ∧ HasSms c)) :
    Vetoes (fireBefore .authHijack) c := by
  -- the only handlers on this event are the two hijackers, and neither touches the context user
  have hk (J : Ctx → Prop) (hJ : ∀ c c', c'.ctxUser = c.ctxUser → J c → J c') :
      ∀ h ∈ c.cfg.units.flatMap (·.before .authHijack), ∀ c0, J c0 → ∀ c1, h false c0 = (.ok false, c1) → J c1 := by
    intro h hm c0 hj c1 hr
    obtain ⟨_, _, hu⟩ := List.mem_flatMap.mp hm
    rcases mem_before hu with ⟨_, he | he, _⟩ | ⟨_, he, _⟩ | ⟨_, _, rfl⟩ | ⟨_, _, rfl⟩
    iterate 3 cases he
    · exact hJ _ _ ((SameCU.totpHijack _).ok hr) hj
    · exact hJ _ _ ((SameCU.smsHijack _).ok hr) hj
  have reg {u h} (hl : c.cfg.has u = true) (hm : h ∈ u.before .authHijack) :
      h ∈ c.cfg.units.flatMap (·.before .authHijack) :=
    List.mem_flatMap.mpr ⟨u, by simpa [Config.has] using hl, hm⟩
  rcases h with ⟨hl, ht⟩ | ⟨hl, ht⟩
  · exact hijack_chain HasTotp _ (hk _ fun _ _ he ⟨u, hu, hs⟩ => ⟨u, he.trans hu, hs⟩)
      ⟨totpHijack, reg hl (by simp [Unit.before]), totpHijack_vetoes⟩ c ht
  · exact hijack_chain HasSms _ (hk _ fun _ _ he ⟨u, hu, hs⟩ => ⟨u, he.trans hu, hs⟩)
      ⟨smsHijack, reg hl (by simp [Unit.before]), smsHijack_vetoes⟩ c ht


/-! ### What a successful second-factor verification means -/

/-- What `totpValidate` has checked when it reports success: the user `u0` that the pending key (or
the current session) resolves to has TOTP enabled, and either no recovery code was submitted and the
code is valid for `u0`'s secret, or the submitted recovery code was struck from `u0`'s codes and
that record saved. -/
theorem totpValidate_success (c0 : Ctx) :
    Ret (fun r _ => ∀ u, r = some (u, TotpStatus.success) →
          ∃ (u0 : User) (c1 : Ctx), tfaUser .totpPending c0 = (.ok (.found u0), c1) ∧ u0.totpSecret ≠ [] ∧
            ((c0.req.rcode = [] ∧ u.pid = u0.pid ∧ c0.req.totpOk.contains u0.totpSecret = true) ∨
             (c0.req.rcode ≠ [] ∧ ∃ rest, useRecoveryCode u0.recCodes c0.req.rcode = some rest ∧
                u = { u0 with recCodes := rest } ∧ Saved u)))
      totpValidate c0 := by
  unfold totpValidate
  ret_auto
  all_goals
    unfold Post
    intro u hu
    first | cases hu | skip
  all_goals
    have ht := ‹tfaUser .totpPending c0 = _›
    simp only [((Quiet.tfaUser _).ok ht).1.1] at *
    refine ⟨_, _, ht, by simpa using ‹¬List.isEmpty _ = true›, ?_⟩
  · have hs := ‹M.save _ _ = _›
    exact .inr ⟨by simpa using ‹(!List.isEmpty _) = true›, _, ‹useRecoveryCode _ _ = some _›, rfl, Saved.intro hs ‹_›⟩
  all_goals
    exact .inl ⟨by simpa using ‹¬(!List.isEmpty _) = true›, rfl, by simpa using ‹¬(!List.contains c0.req.totpOk _) = true›⟩

/-- **C02_totp_success_means.** `totpValidate` reports success only for the user `u0` that the
pending key (or the current session) resolves to, only if that user has TOTP enabled, and only
if the submitted code is valid *for that user's secret* (no recovery code submitted) or the
submitted recovery code is one of *that user's* stored codes. -/
theorem C02_totp_success_means (c0 : Ctx) :
    Ret (fun r _ => ∀ u, r = some (u, TotpStatus.success) →
          ∃ (u0 : User) (c1 : Ctx), tfaUser .totpPending c0 = (.ok (.found u0), c1) ∧ u.pid = u0.pid ∧
            u0.totpSecret ≠ [] ∧
            (c0.req.rcode = [] → c0.req.totpOk.contains u0.totpSecret = true) ∧
            (c0.req.rcode ≠ [] → c0.req.rcode ∈ u0.recCodes))
      totpValidate c0 :=
  (totpValidate_success c0).mono fun _ _ h u hu => by
    obtain ⟨u0, c1, ht, hs, ⟨hr, hp, hok⟩ | ⟨hr, rest, hrc, rfl, _⟩⟩ := h u hu
    · exact ⟨u0, c1, ht, hp, hs, fun _ => hok, fun h => absurd hr h⟩
    · exact ⟨u0, c1, ht, rfl, hs, fun h => absurd h hr, fun _ => (C12_recovery_removes_one _ _ _ hrc).1⟩

/-- `SS h`: `h` changes neither storage nor what the request sees of the session. -/
def SS {α} (h : H α) : Prop := ∀ c, (h c).2.store = c.store ∧ (h c).2.sess = c.sess ∧ (h c).2.ctxPid = c.ctxPid

def SameSS (c c' : Ctx) : Prop := c'.store = c.store ∧ c'.sess = c.sess ∧ c'.ctxPid = c.ctxPid

instance : Pre SameSS :=
  ⟨fun _ => ⟨rfl, rfl, rfl⟩, fun ⟨a1, a2, a3⟩ ⟨b1, b2, b3⟩ => ⟨b1.trans a1, b2.trans a2, b3.trans a3⟩⟩

@[pres] theorem SameSS.backend : Pres SameSS M.backend := ⟨fun _ => ⟨rfl, rfl, rfl⟩⟩
@[pres] theorem SameSS.load (p) : Pres SameSS (M.load p) := by unfold M.load; pres_auto
@[pres] theorem SameSS.currentUserID : Pres SameSS M.currentUserID := by unfold M.currentUserID; pres_auto
@[pres] theorem SameSS.currentUser : Pres SameSS M.currentUser := by unfold M.currentUser; pres_auto

theorem SS.backend : SS M.backend := SameSS.backend.run
theorem SS.currentUser : SS M.currentUser := SameSS.currentUser.run

/-- Whom `CurrentUser` finds: the user in the request context, or else the stored record of the
request's / the session's identity. -/
theorem currentUser_found {c : Ctx} {v : User} {c' : Ctx} (h : M.currentUser c = (.ok (.found v), c')) :
    c.ctxUser = some v ∨
    ∃ pid, (c.ctxPid = some pid ∨ (c.ctxPid = none ∧ c.sess.get .uid = some pid)) ∧ c.store.find pid = some v := by
  unfold M.currentUser at h
  cases hu : c.ctxUser with
  | some u => simp only [exec, hu] at h; cases h; exact .inl rfl
  | none =>
    obtain ⟨pid, hid, hpid⟩ := currentUserID_spec c
    simp only [bind_apply, get_apply, hu, hid] at h
    by_cases he : pid.isEmpty = true
    · rw [if_pos he] at h; cases h
    · rw [if_neg he] at h
      refine .inr ⟨pid, ?_, (load_found h).1⟩
      rcases hpid with h1 | ⟨h1, h2 | rfl⟩
      · exact .inl h1
      · exact .inr ⟨h1, h2⟩
      · exact absurd rfl he

/-- Who `tfaUser` resolves to: the user already in the request context, or the stored record
of the session's identity, or — only when there is none — the stored record of the pending key. -/
theorem tfaUser_found (k : SKey) (c : Ctx) (u : User) (c1 : Ctx)
    (h : tfaUser k c = (.ok (.found u), c1)) :
    c.ctxUser = some u ∨
    (∃ pid, (c.ctxPid = some pid ∨ (c.ctxPid = none ∧ c.sess.get .uid = some pid)) ∧ c.store.find pid = some u) ∨
    (∃ pid, c.sess.get k = some pid ∧ c.store.find pid = some u) := by
  unfold tfaUser at h
  rw [bind_apply] at h
  generalize hr0 : M.currentUser c = r0 at h
  obtain ⟨r | _, cA⟩ := r0
  · have ⟨hst, hse, _⟩ := SameSS.currentUser.ok hr0
    cases r with
    | notFound =>
      -- nobody is logged in: the pending key decides
      simp only [exec] at h
      cases hk : cA.sess.get k with
      | none => simp only [hk] at h; cases h
      | some pid =>
        simp only [hk] at h
        split at h
        · cases h
        · exact .inr (.inr ⟨pid, hse ▸ hk, hst ▸ (load_found h).1⟩)
    | error => cases h
    | found v => cases h; exact (currentUser_found hr0).imp_right .inl
  · cases h

/-- What `smsVerdict` has checked when it accepts: outside enrolment, with a recovery code
submitted, that code was struck from `u`'s codes and the record saved; otherwise the submitted code
is the one held in the session. -/
theorem smsVerdict_accepts (pg : SmsPage) (u : User) (c0 : Ctx) :
    Ret (fun r _ => ∀ u', r = (u', true) →
          (c0.req.rcode ≠ [] ∧ pg ≠ .confirm ∧ ∃ rest, useRecoveryCode u.recCodes c0.req.rcode = some rest ∧
              u' = { u with recCodes := rest } ∧ Saved u') ∨
          (¬(c0.req.rcode ≠ [] ∧ pg ≠ .confirm) ∧ u' = u ∧
              ∃ code, c0.sess.get .smsSecret = some code ∧ code ≠ [] ∧ c0.req.code = code))
      (smsVerdict pg u) c0 := by
  unfold smsVerdict
  ret_auto
  all_goals
    unfold Post
    intro u' hu
    obtain ⟨rfl, hb⟩ := Prod.mk.inj hu
  · have hs := ‹M.save _ _ = _›
    have hc := ‹(!List.isEmpty c0.req.rcode && pg != .confirm) = true›
    simp at hc
    exact .inl ⟨hc.1, hc.2, _, ‹_›, rfl, Saved.intro hs ‹_›⟩
  · cases hb
  · exact .inr ⟨by simpa using ‹¬(!List.isEmpty c0.req.rcode && pg != .confirm) = true›, rfl, _,
      ‹c0.sess.get .smsSecret = some _›, by simpa using ‹¬List.isEmpty _ = true›, by simpa using hb⟩

/-- **C02_sms_success_means.** `smsVerdict` accepts only a recovery code stored for *that user*
(outside enrolment), or the code currently held in the session — the latter is not tied to
the user (known finding F9, `C02_sms_verdict_ignores_user`). -/
theorem C02_sms_success_means (pg : SmsPage) (u : User) (c0 : Ctx) :
    Ret (fun r _ => ∀ u', r = (u', true) →
          u'.pid = u.pid ∧
          ((c0.req.rcode ≠ [] ∧ pg ≠ .confirm ∧ c0.req.rcode ∈ u.recCodes) ∨
           (∃ code, c0.sess.get .smsSecret = some code ∧ code ≠ [] ∧ c0.req.code = code)))
      (smsVerdict pg u) c0 :=
  (smsVerdict_accepts pg u c0).mono fun _ _ h u' hu => by
    obtain ⟨h1, h2, rest, hrc, rfl, _⟩ | ⟨_, rfl, hcode⟩ := h u' hu
    · exact ⟨rfl, .inl ⟨h1, h2, (C12_recovery_removes_one _ _ _ hrc).1⟩⟩
    · exact ⟨rfl, .inr hcode⟩


end AuthbossModel.M
