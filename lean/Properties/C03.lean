/-
  C03 — Locked or unconfirmed accounts cannot complete a login or use protected routes.

  The order-independence is the heart: `FireBefore` runs every handler of every loaded unit
  in load order without short-circuiting; the theorems below hold for *every* list of units.
-/
import Proofs.Veto
import Proofs.Dispatch

namespace AuthbossModel.M

def lockedQ : Int → User → Prop := fun t u => u.locked > t
def unconfQ : Int → User → Prop := fun _ u => u.confirmed = false

theorem lockedQ_stable : StableQ lockedQ := by intro t u s h; simpa [lockedQ, User.withL] using h
theorem unconfQ_stable : StableQ unconfQ := by intro t u s h; simpa [unconfQ, User.withL] using h

/-- **C03_locked_veto.** With the lock unit loaded anywhere in the load order, `Before(EventAuth)`
and `Before(EventOAuth2)` never report "not handled" for a context user who is locked now
(they answer the request themselves or fail) — so every login flow that consults them stops. -/
theorem C03_locked_veto (c : Ctx) (e : Ev) (he : e = .auth ∨ e = .oauth2)
    (hl : c.cfg.has .lock = true) (u : User) (hu : c.ctxUser = some u) (hlocked : u.locked > c.now) :
    ∀ c', fireBefore e c ≠ (.ok false, c') := by
  refine fireBefore_vetoes e he lockedQ lockedQ_stable (lockUpdate true)
    (fun c ⟨u, hu, hl⟩ c' hr => ?_) c ?_ ⟨u, hu, hlocked⟩
  · have := (lockUpdate_ret hu true false _ _ hr).2.1
    simp [Lock.isLocked, Lock.update, User.lstate] at this
    exact Int.not_lt.mpr this hl
  refine ⟨.lock, by simpa [Config.has] using hl, ?_⟩
  rcases he with rfl | rfl <;> simp [Unit.before]

/-- **C03_unconfirmed_veto.** Same for the confirm unit and an unconfirmed context user, on
`Before(EventAuth)`. -/
theorem C03_unconfirmed_veto (c : Ctx) (hl : c.cfg.has .confirm = true) (u : User)
    (hu : c.ctxUser = some u) (hunc : u.confirmed = false) :
    ∀ c', fireBefore .auth c ≠ (.ok false, c') := by
  refine fireBefore_vetoes .auth (Or.inl rfl) unconfQ unconfQ_stable confirmPrevent
    (fun c ⟨u, hu, hc⟩ c' hr => ?_) c ?_ ⟨u, hu, hunc⟩
  · have := (confirmPrevent_ret hu false _ _ hr).2.1
    rw [(hc : u.confirmed = false)] at this
    cases this
  · exact ⟨.confirm, by simpa [Config.has] using hl, by simp [Unit.before]⟩

/-- The confirm unit registers nothing on `Before(EventOAuth2)` (the lock unit does): an
OAuth2 callback is vetoed for locked accounts only.  OAuth2 accounts are created by the
application's `NewFromOAuth2`; whether such an account can be "unconfirmed" at all is the
application's decision (recorded in DESIGN.md §6-F12). -/
theorem C03_confirm_not_on_oauth2 : Unit.before .confirm .oauth2 = [] ∧ Unit.before .lock .oauth2 = [lockUpdate true] := by
  constructor <;> rfl

/-! ### The login flows (handler level)

Each handler writes the identity only after its gate — `Before(EventAuth)`, for the callback
`Before(EventOAuth2)` — said "not handled" for the account in the request context (`Gate`, in
`Proofs/Login.lean`); by the two theorems above no such gate lets a blocked account through. -/

/-- Locked with the lock unit loaded, or unconfirmed with the confirm unit loaded. -/
def Blocked (c : Ctx) (u : User) : Prop :=
  (c.cfg.has .lock = true ∧ u.locked > c.now) ∨ (c.cfg.has .confirm = true ∧ u.confirmed = false)

theorem Gate.not_blocked {c0 : Ctx} {u : User} (hg : Gate .auth c0 u) : ¬Blocked c0 u := by
  obtain ⟨c, c', hu, hcfg, hnow, hf⟩ := hg
  rintro (⟨hL, hlk⟩ | ⟨hC, hun⟩)
  · exact C03_locked_veto c .auth (.inl rfl) (hcfg ▸ hL) u hu (hnow ▸ hlk) c' hf
  · exact C03_unconfirmed_veto c (hcfg ▸ hC) u hu hun c' hf

/-- **C03_password_login.** The password login handler, started in any context, adds no
session identity when the named account is locked (lock loaded) or unconfirmed (confirm
loaded) — whatever password is presented and wherever those units sit in the load order. -/
theorem C03_password_login (c0 : Ctx)
    (hblocked : ∀ u, c0.store.find c0.req.pid = some u →
      (c0.cfg.has .lock = true ∧ u.locked > c0.now) ∨ (c0.cfg.has .confirm = true ∧ u.confirmed = false)) :
    Safe (fun _ => False) authLoginPost c0 :=
  (authLogin_run c0).safe.mono fun _ ⟨hU, u, hf, _, _, hg⟩ => hg.not_blocked (hblocked u (hU ▸ hf))

/-- **C03_otp_login.** The one-time-password login adds no session identity when the named
account is locked or unconfirmed. -/
theorem C03_otp_login (c0 : Ctx)
    (hblocked : ∀ u, c0.store.find c0.req.pid = some u →
      (c0.cfg.has .lock = true ∧ u.locked > c0.now) ∨ (c0.cfg.has .confirm = true ∧ u.confirmed = false)) :
    Safe (fun _ => False) otpLoginPost c0 :=
  (otpLogin_run c0).safe.mono fun _ ⟨hU, u, _, hf, _, _, hg⟩ => hg.not_blocked (hblocked u (hU ▸ hf))

/-- **C03_totp_validate.** The TOTP step of a login adds no session identity when the user it
resolved (the pending user, with a valid code or recovery code) is locked or unconfirmed —
after the `fix:` that makes the second-factor steps consult `Before(EventAuth)`. -/
theorem C03_totp_validate (c0 : Ctx)
    (hblocked : ∀ u c', totpValidate c0 = (.ok (some (u, .success)), c') →
      (c'.cfg.has .lock = true ∧ u.locked > c'.now) ∨ (c'.cfg.has .confirm = true ∧ u.confirmed = false)) :
    Safe (fun _ => False) totpPostValidate c0 :=
  (totpValidate_run c0).safe.mono fun _ ⟨u, c', hv, _, hg⟩ => by
    have hb := hblocked u c' hv
    rw [(Quiet.totpValidate.ok hv).1.2.1, (Quiet.totpValidate.ok hv).1.2.2] at hb
    exact hg.not_blocked hb

/-- **C03_sms_validate.** Same for the SMS step (code from the session, or a recovery code). -/
theorem C03_sms_validate (u : User) (c0 : Ctx)
    (hblocked : ∀ u' c', smsVerdict .validate u c0 = (.ok (u', true), c') →
      (c'.cfg.has .lock = true ∧ u'.locked > c'.now) ∨ (c'.cfg.has .confirm = true ∧ u'.confirmed = false)) :
    Safe (fun _ => False) (smsValidateCode .validate u) c0 :=
  (smsValidateCode_run .validate u c0).safe.mono fun _ ⟨_, u', c', hv, _, hg⟩ => by
    have hb := hblocked u' c' hv
    rw [((Quiet.smsVerdict ..).ok hv).1.2.1, ((Quiet.smsVerdict ..).ok hv).1.2.2] at hb
    exact hg.not_blocked hb

/-- **C03_oauth2_locked.** An OAuth2 callback adds a session identity only for an account that
does not exist yet (it is being created): for an *existing* account that is locked now, with
the lock unit loaded anywhere, it never does. -/
theorem C03_oauth2_locked (c0 : Ctx) (hl : c0.cfg.has .lock = true)
    (hlocked : ∀ puid u, c0.req.provUid = some puid →
      c0.store.find (makeOAuth2PID c0.req.provider puid) = some u → u.locked > c0.now) :
    Safe (fun U => ∃ puid, c0.req.provUid = some puid ∧ U = makeOAuth2PID c0.req.provider puid ∧ c0.store.find U = none)
      oauth2End c0 :=
  (oauth2End_run c0).safe.mono fun U ⟨_, _, puid, hp, hU, hacc⟩ => by
    rcases hacc with ⟨u, hf, c, c', hu, hcfg, hnow, hg⟩ | hnone
    · exact absurd hg (C03_locked_veto c .oauth2 (.inr rfl) (hcfg ▸ hl) _ hu
        (hnow ▸ hlocked puid u hp (hU ▸ hf)) c')
    · exact ⟨puid, hp, hU, hnone⟩

/-- **C03_recover_login.** `recover.EndPost` with login-after-recovery adds no session identity
when the account the token belongs to is locked or unconfirmed (the password is still changed). -/
theorem C03_recover_login (c0 : Ctx)
    (hblocked : ∀ raw u, c0.req.token = some raw → u ∈ c0.store.users → u.recoverSel = some (raw.take 32) →
      (c0.cfg.has .lock = true ∧ u.locked > c0.now) ∨ (c0.cfg.has .confirm = true ∧ u.confirmed = false)) :
    Safe (fun _ => False) recoverEndPost c0 :=
  (recoverEnd_run c0).safe.mono fun _ ⟨_, _, raw, u, ht, _, hm, _, hs, _, _, hg⟩ =>
    hg.not_blocked (hblocked raw u ht hm hs)

/-- **C03_lock_middleware / C03_confirm_middleware.** The wrapped handler is represented by an
observable marker action (`putS uid m`, the one action the `Safe` logic tracks).  The
middlewares run it only for a user, loaded in this request, who is not locked now /
is confirmed. -/
theorem C03_lock_middleware (m : Bytes) (c : Ctx) :
    Safe (fun _ => ∃ u c1, loadCurrentUser c = (.ok (.found u), c1) ∧ Lock.isLocked c1.now u.lstate = false)
      (lockMW (putS .uid m)) c := by
  refine Run.safe ?_
  unfold lockMW
  run_auto
  exact ⟨_, _, ‹loadCurrentUser c = _›, by simpa using ‹(!Lock.isLocked _ _) = true›⟩

theorem C03_confirm_middleware (m : Bytes) (c : Ctx) :
    Safe (fun _ => ∃ u c1, loadCurrentUser c = (.ok (.found u), c1) ∧ u.confirmed = true)
      (confirmMW (putS .uid m)) c := by
  refine Run.safe ?_
  unfold confirmMW
  run_auto
  exact ⟨_, _, ‹loadCurrentUser c = _›, ‹_›⟩

/-! ### Non-vacuity: a locked account with the right password, lock loaded *after* every other unit -/

def nv3 : Config := { units := [.remember, .confirm, .auth, .lock], lockAfter := 2, lockWindow := 1000, lockDuration := 1000 }
def nv3User : User := { pid := lit "a@x.c", pw := lit "pw", confirmed := true, locked := 500 }

example : ((run nv3 {} [.seedUser nv3User, .http (lit "b") .login { pid := lit "a@x.c", pw := lit "pw" } none]).browser
    (lit "b")).sess.get .uid = none := by decide +kernel

example : ((run nv3 {} [.seedUser { nv3User with locked := 0 }, .advance 1,
    .http (lit "b") .login { pid := lit "a@x.c", pw := lit "pw" } none]).browser (lit "b")).sess.get .uid
      = some (lit "a@x.c") := by decide +kernel

end AuthbossModel.M
