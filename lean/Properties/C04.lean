/-
  C04 — Failed-attempt counting and lockout follow the configured thresholds exactly.

  `Lock.update/success/lock/unlock` transcribe lock.go.  `Ref` below is written from the
  property text alone.  The theorems say the code's state machine *is* the reference one,
  for every configuration with `lockAfter ≥ 1`, every time stamp (all of ℤ, so both sides
  of `LockWindow`/`LockDuration` to the nanosecond) and every history.
-/
import AuthbossModel.Lock

namespace AuthbossModel.Lock
open AuthbossModel.M

/-! ## The reference automaton (from the property statement) -/

/-- What happens to an account. Times are absolute. -/
inductive LOp
  | fail (t : Int)      -- an authentication failure on any path at time t
  | success (t : Int)   -- a completed login
  | correct (t : Int)   -- a correct password presented (login may still be vetoed, e.g. while locked)
  | lock (t : Int)      -- manual lock
  | unlock (t : Int)    -- manual unlock
deriving DecidableEq, Repr

structure Ref where
  count : Int := 0            -- failures counted so far
  last  : Int := zeroTime    -- time of the previous attempt
  until_ : Int := zeroTime   -- locked strictly before this instant
deriving DecidableEq, Repr

/-- "Failures are counted per account, a successful login or a pause longer than LockWindow
since the previous attempt restarting the count; the account becomes locked as soon as the
count reaches LockAfter and stays locked for LockDuration from the failure that
(re)triggered it.  A correct password never counts as a failure, and manual unlock clears
both the lock and the count." -/
def Ref.step (c : LCfg) (r : Ref) : LOp → Ref
  | .fail t =>
    let count := if t - r.last > c.window then 1 else r.count + 1
    { count := count, last := t, until_ := if count ≥ c.after then t + c.duration else r.until_ }
  | .success t => { r with count := 0, last := t }
  | .correct t => { r with last := t }
  | .lock t => { r with until_ := t + c.duration }
  | .unlock t => { count := 0, last := t - c.window * 2, until_ := t - c.duration }

def Ref.locked (r : Ref) (now : Int) : Bool := decide (now < r.until_)

/-! ## The code's automaton -/

def LState.step (c : LCfg) (s : LState) : LOp → LState
  | .fail t => update c t false s
  | .success t => success t s
  | .correct t => update c t true s
  | .lock t => lock c t s
  | .unlock t => unlock c t s

def abs (s : LState) : Ref := ⟨s.attempts, s.last, s.locked⟩

/-! ## Property theorems -/

/-- **C04_refines (one step).** Every operation of the code is the reference operation. -/
theorem C04_refines_step (c : LCfg) (s : LState) (op : LOp) :
    abs (s.step c op) = (abs s).step c op := by
  cases op <;> simp [LState.step, Ref.step, abs, update, success, lock, unlock]

/-- **C04_refines (histories).** For every history, the stored fields are the reference
automaton's state. -/
theorem C04_refines (c : LCfg) (s : LState) (ops : List LOp) :
    abs (ops.foldl (LState.step c) s) = ops.foldl (Ref.step c) (abs s) := by
  induction ops generalizing s with
  | nil => rfl
  | cons op ops ih => simp only [List.foldl_cons, ih, C04_refines_step]

/-- `IsLocked` is the reference notion of "locked now". -/
theorem C04_isLocked (s : LState) (now : Int) : isLocked now s = (abs s).locked now := by
  rfl

/-- **C04_threshold.** A failure locks the account *iff* the count it produces reaches
`LockAfter` (unless it was locked for longer already); the lock then runs for exactly
`LockDuration` from that failure.  Holds for every `LockAfter`, including 1. -/
theorem C04_threshold (c : LCfg) (s : LState) (t : Int) :
    let s' := update c t false s
    (s'.attempts ≥ c.after → s'.locked = t + c.duration) ∧
    (s'.attempts < c.after → s'.locked = s.locked) ∧
    s'.attempts = (if t - s.last > c.window then 1 else s.attempts + 1) := by
  simp only [update, Bool.false_eq_true, if_false]
  exact ⟨fun h => if_pos h, fun h => if_neg (Int.not_le.mpr h), trivial⟩

/-- `Spaced R a l`: consecutive elements of `a :: l` are related by `R`. -/
def Spaced (R : Int → Time → Prop) : Int → List Int → Prop
  | _, [] => True
  | a, b :: l => R a b ∧ Spaced R b l

theorem Spaced.le_last {R : Int → Time → Prop} (hR : ∀ a b, R a b → a ≤ b) :
    ∀ {a l b}, Spaced R a (l ++ [b]) → a ≤ b
  | _, [], _, h => hR _ _ h.1
  | _, _ :: _, _, h => Int.le_trans (hR _ _ h.1) (le_last hR h.2)

/-- A run of failures, each within the window of the previous attempt: every one counts, and
from the one that reaches `after` on every one sets the lock anew — so the lock is that of
the last failure, or untouched. -/
theorem update_run (c : LCfg) {R : Int → Time → Prop} (hR : ∀ a b, R a b → b - a ≤ c.window)
    (s : LState) (ts : List Int) (t : Int) (h : Spaced R s.last (ts ++ [t])) :
    (ts ++ [t]).foldl (fun s t => update c t false s) s =
      { attempts := s.attempts + ts.length + 1, last := t,
        locked := if s.attempts + ts.length + 1 ≥ c.after then t + c.duration else s.locked } := by
  induction ts generalizing s with
  | nil => simp [update, Int.not_lt.mpr (hR _ _ h.1)]
  | cons t0 ts ih =>
    have hw := Int.not_lt.mpr (hR _ _ h.1)
    rw [List.cons_append, List.foldl_cons, ih _ (by simpa [update] using h.2)]
    simp only [update, hw, Bool.false_eq_true, if_false, List.length_cons, LState.mk.injEq, true_and]
    refine ⟨by omega, ?_⟩
    -- still below the threshold at the end means below it after the first failure too
    split <;> split <;> omega

/-- **C04_exact_count.** `k` consecutive failures, each within the window of the previous
attempt, starting from a zero count, leave the count at exactly `k`. -/
theorem C04_exact_count (c : LCfg) (s : LState) (ts : List Int)
    (hmono : Spaced (fun a b => b - a ≤ c.window) s.last ts) :
    (ts.foldl (fun s t => update c t false s) s).attempts = s.attempts + ts.length := by
  obtain rfl | ⟨ts, t, rfl⟩ := ts.eq_nil_or_concat
  · simp
  · rw [List.concat_eq_append] at hmono ⊢
    rw [update_run c (fun _ _ h => h) s ts t hmono]
    simp only [List.length_append, List.length_singleton]
    omega

/-- **C04_locks_at_threshold.** From an unlocked account with a zero count, `k` such
failures leave it locked right after the last one iff `k ≥ LockAfter` (for `LockAfter ≥ 1`,
positive duration). -/
theorem C04_locks_at_threshold (c : LCfg) (s : LState) (ts : List Int) (t : Int)
    (h0 : s.attempts = 0) (hun : s.locked ≤ s.last) (hd : 0 < c.duration)
    (hmono : Spaced (fun a b => 0 ≤ b - a ∧ b - a ≤ c.window) s.last (ts ++ [t])) :
    isLocked t ((ts ++ [t]).foldl (fun s t => update c t false s) s) = decide (c.after ≤ (ts.length : Int) + 1) := by
  have hle : s.last ≤ t := Spaced.le_last (fun _ _ h => Int.le_of_sub_nonneg h.1) hmono
  rw [update_run c (fun _ _ h => h.2) s ts t hmono]
  simp only [isLocked, h0]
  apply decide_eq_decide.mpr
  split <;> omega

/-- **C04_stays_locked.** Once a failure at `t` has locked the account, it is locked at
every instant before `t + LockDuration`, whatever correct-password attempts and successful
second-factor/other logins are recorded meanwhile (only a manual unlock ends it early). -/
theorem C04_stays_locked (c : LCfg) (s : LState) (t : Int) (ops : List LOp)
    (hlocked : s.locked = t + c.duration)
    (hno : ∀ op ∈ ops, (∃ u, op = .success u) ∨ (∃ u, op = .correct u))
    (now : Int) (hnow : now < t + c.duration) :
    isLocked now (ops.foldl (LState.step c) s) = true := by
  suffices h : (ops.foldl (LState.step c) s).locked = t + c.duration by
    simp [isLocked, h, hnow]
  induction ops generalizing s with
  | nil => exact hlocked
  | cons op ops ih =>
    simp only [List.foldl_cons]
    apply ih
    · rcases hno op (by simp) with ⟨u, rfl⟩ | ⟨u, rfl⟩ <;> simp [LState.step, success, update, hlocked]
    · intro o ho; exact hno o (by simp [ho])

/-- **C04_correct_never_counts.** A correct password changes neither the count nor the lock. -/
theorem C04_correct_never_counts (c : LCfg) (s : LState) (t : Int) :
    (update c t true s).attempts = s.attempts ∧ (update c t true s).locked = s.locked := by
  simp [update]

/-- **C04_success_resets.** -/
theorem C04_success_resets (s : LState) (t : Int) :
    (success t s).attempts = 0 ∧ (success t s).locked = s.locked := by simp [success]

/-- **C04_window_restart.** After a pause longer than the window the next failure counts as
the first. -/
theorem C04_window_restart (c : LCfg) (s : LState) (t : Int) (h : t - s.last > c.window) :
    (update c t false s).attempts = 1 := by simp [update, h]

/-- **C04_unlock.** Manual unlock clears the lock and the count, and the next failure is
counted as the first one (non-negative window and duration). -/
theorem C04_unlock (c : LCfg) (s : LState) (t t' : Int) (hd : 0 ≤ c.duration) (hw : 0 ≤ c.window)
    (ht : t ≤ t') :
    isLocked t' (unlock c t s) = false ∧ (unlock c t s).attempts = 0 ∧
    (update c t' false (unlock c t s)).attempts = 1 := by
  refine ⟨?_, ?_, ?_⟩
  · simp [isLocked, unlock]; omega
  · simp [unlock]
  · simp only [update, unlock, Bool.false_eq_true, if_false]
    by_cases h : t' - (t - c.window * 2) > c.window <;> simp [h]

/-! ## Non-vacuity -/

/-- `LockAfter = 1`: the very first failure locks (the case the `fix:` repaired). -/
example : isLocked 5 (update ⟨1, 100, 50⟩ 5 false {}) = true := by decide +kernel

/-- Three failures inside the window with `LockAfter = 3`: locked exactly at the third. -/
example :
    let c : LCfg := ⟨3, 100, 1000⟩
    let s1 := update c 10 false {}
    let s2 := update c 20 false s1
    let s3 := update c 30 false s2
    (isLocked 10 s1, isLocked 20 s2, isLocked 30 s3, isLocked 1029 s3, isLocked 1030 s3)
      = (false, false, true, true, false) := by decide +kernel

end AuthbossModel.Lock
