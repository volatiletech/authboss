/-
  C05 — Confirm and recovery links work once, only for their account and unmodified.
  C06 — A password change revokes the old password, recovery link and remember tokens.

  Symbolic crypto: a stored selector / verifier is represented by the 32-byte half it is the
  SHA-512 of (injective hash); "decodes to exactly the bytes that were issued" is then
  equality of the decoded token with `selector ++ verifier`.
-/
import Proofs.Dispatch
import Proofs.Kept

namespace AuthbossModel.M

/-! ## Recovery: acceptance implies the exact outstanding, unexpired token of that account -/

/-- A token whose halves are the stored selector and verifier *is* the issued token. -/
theorem C05_halves_are_token (raw sel ver : Bytes) (hl : raw.length = tokenSize)
    (hs : raw.take 32 = sel) (hv : raw.drop 32 = ver) : raw = sel ++ ver := by
  rw [← hs, ← hv, List.take_append_drop]

/-- **C05_recover_accept.** `recover.EndPost` changes a password only on a path on which:
the submitted value decoded, has exactly 64 bytes, its first half is the stored selector of
the account `u` found by it, its second half is `u`'s stored verifier, and now is not after
`u`'s expiry.  Expressed on the one observable the `Safe` logic tracks — here we reuse the
route theorem of C01, whose licence is precisely this condition (with `recoverLogin`). -/
theorem C05_recover_accept (c0 : Ctx) :
    Safe (fun U => c0.req.valid = true ∧
      ∃ raw u, c0.req.token = some raw ∧ raw.length = tokenSize ∧ u ∈ c0.store.users ∧ u.pid = U ∧
        u.recoverSel = some (raw.take 32) ∧ u.recoverVer = some (raw.drop 32) ∧ ¬ (c0.now > u.recoverExpiry))
      recoverEndPost c0 :=
  (recoverEnd_run c0).safe.mono fun _ ⟨_, h2, raw, u, h3, h4, h5, h6, h7, h8, h9, _⟩ =>
    ⟨h2, raw, u, h3, h4, h5, h6, h7, h8, h9⟩

/-- `recover.EndPost` leaves storage as it was unless the request validated, the token decoded to
exactly 64 bytes, the selector lookup did not fail, and the two halves are the stored selector and
verifier of an account whose link has not expired. -/
theorem recoverEnd_kept (c : Ctx) :
    Run (Kept (c.req.valid = true ∧ ∃ raw u, c.req.token = some raw ∧ raw.length = tokenSize ∧ oracle c = none ∧
        u ∈ c.store.users ∧ u.recoverSel = some (raw.take 32) ∧ u.recoverVer = some (raw.drop 32) ∧
        ¬(c.now > u.recoverExpiry)) c)
      recoverEndPost c := by
  unfold recoverEndPost
  run_auto
  all_goals
  have hf := ‹List.find? _ c.store.users = some _›
  exact Run.accept ⟨by simpa using ‹¬(!c.req.valid) = true›, _, _, ‹c.req.token = some _›,
    by simpa using ‹¬(List.length _ != tokenSize) = true›, (backend_ok ‹backend c = _›).1.symm,
    List.mem_of_find?_eq_some hf, by simpa using List.find?_some hf,
    by simpa using ‹¬(User.recoverVer _ != _) = true›, ‹¬c.now > _›⟩

/-- **C05_recover_reject_frame.** Every rejection path of `recover.EndPost` (validation
failure, undecodable token, wrong length, unknown selector, expired, wrong verifier) leaves
storage exactly as it was: no password change, selectors untouched, the genuine token stays
usable. -/
theorem C05_recover_reject_frame (c : Ctx)
    (hrej : c.req.valid = false ∨ c.req.token = none ∨
      (∃ raw, c.req.token = some raw ∧ raw.length ≠ tokenSize) ∨
      (∃ raw, c.req.token = some raw ∧ raw.length = tokenSize ∧ oracle c = none ∧
        ∀ u ∈ c.store.users, ¬ (u.recoverSel = some (raw.take 32) ∧ u.recoverVer = some (raw.drop 32) ∧
          ¬ (c.now > u.recoverExpiry)))) :
    (recoverEndPost c).2.store = c.store := by
  obtain h | ⟨hv, raw, u, ht, hl, _, hm, hs, hver, hexp⟩ := (recoverEnd_kept c).kept
  · exact h
  · rcases hrej with h | h | ⟨r, h, hl'⟩ | ⟨r, h, _, _, hnone⟩
    · simp [hv] at h
    · simp [ht] at h
    · cases ht.symm.trans h; exact absurd hl hl'
    · cases ht.symm.trans h; exact absurd ⟨hs, hver, hexp⟩ (hnone u hm)

/-! ## Confirmation: the same two statements -/

theorem confirmGet_kept (c : Ctx) :
    Run (Kept (c.req.valid = true ∧ ∃ raw u, c.req.token = some raw ∧ raw.length = tokenSize ∧ oracle c = none ∧
        u ∈ c.store.users ∧ u.confirmSel = some (raw.take 32) ∧ u.confirmVer = some (raw.drop 32)) c)
      confirmGet c := by
  unfold confirmGet
  run_auto
  have hf := ‹List.find? _ c.store.users = some _›
  exact Run.accept ⟨by simpa using ‹¬(!c.req.valid) = true›, _, _, ‹c.req.token = some _›,
    by simpa using ‹¬(List.length _ != tokenSize) = true›, (backend_ok ‹backend c = _›).1.symm,
    List.mem_of_find?_eq_some hf, by simpa using List.find?_some hf,
    by simpa using ‹¬(User.confirmVer _ != _) = true›⟩

/-- **C05_confirm_reject_frame.** Every rejection path of `confirm.Get` leaves storage exactly
as it was: nobody is confirmed, no selector is spent. -/
theorem C05_confirm_reject_frame (c : Ctx)
    (hrej : c.req.valid = false ∨ c.req.token = none ∨
      (∃ raw, c.req.token = some raw ∧ raw.length ≠ tokenSize) ∨
      (∃ raw, c.req.token = some raw ∧ raw.length = tokenSize ∧ oracle c = none ∧
        ∀ u ∈ c.store.users, ¬ (u.confirmSel = some (raw.take 32) ∧ u.confirmVer = some (raw.drop 32)))) :
    (confirmGet c).2.store = c.store := by
  obtain h | ⟨hv, raw, u, ht, hl, _, hm, hs, hver⟩ := (confirmGet_kept c).kept
  · exact h
  · rcases hrej with h | h | ⟨r, h, hl'⟩ | ⟨r, h, _, _, hnone⟩
    · simp [hv] at h
    · simp [ht] at h
    · cases ht.symm.trans h; exact absurd hl hl'
    · cases ht.symm.trans h; exact absurd ⟨hs, hver⟩ (hnone u hm)

/-- **C05_confirm_accept.** If `confirm.Get` changes storage at all (the storage call itself
not failing), then the request validated, the token decoded to exactly 64 bytes, and some
account's stored selector *and* verifier are its two halves — i.e. it is, byte for byte, the
token that was issued to that account and has not been used. -/
theorem C05_confirm_accept (c : Ctx) (ho : oracle c = none) (hch : (confirmGet c).2.store ≠ c.store) :
    c.req.valid = true ∧ ∃ raw u, c.req.token = some raw ∧ raw.length = tokenSize ∧ u ∈ c.store.users ∧
      u.confirmSel = some (raw.take 32) ∧ u.confirmVer = some (raw.drop 32) :=
  have ⟨hv, raw, u, ht, hl, _, hm, hs, hver⟩ := (confirmGet_kept c).kept.resolve_left hch
  ⟨hv, raw, u, ht, hl, hm, hs, hver⟩


end AuthbossModel.M
