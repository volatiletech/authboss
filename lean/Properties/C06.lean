/-
  C06 — A password change revokes the old password, recovery link and remember tokens.
  (Symbolic bcrypt: the stored value is represented by the password it verifies; K2 — the
  72-byte truncation of real bcrypt — is outside this idealisation.)
-/
import Proofs.Data
import Proofs.Monad

namespace AuthbossModel.M

theorem find_upsert_same (s : Store) (u : User) : (s.upsert u).find u.pid = some u ∨
    ∃ x, s.find u.pid = some x :=
  .inl (by rw [Store.find_upsert, if_pos rfl])

theorem upsert_tokens (s : Store) (u : User) : (s.upsert u).tokens = s.tokens := by
  unfold Store.upsert; split <;> rfl

/-- **C06_update_password.** `Authboss.UpdatePassword` (no storage fault): every remember
token of that account is gone, and nobody else's tokens are touched. -/
theorem C06_update_tokens (cfg : Config) (s : State) (pid pw : Bytes) (u : User) (h : s.store.find pid = some u) :
    let s' := (step cfg s (.apiUpdatePassword pid pw)).1
    (∀ t, (pid, t) ∉ s'.store.tokens) ∧
    (∀ p t, p ≠ pid → ((p, t) ∈ s'.store.tokens ↔ (p, t) ∈ s.store.tokens)) := by
  simp +contextual [step, h, List.mem_filter]

/-- **C06_reset_revokes_tokens.** `remember.AfterPasswordReset` (hooked on `EventRecoverEnd`)
deletes every remember token of the account whose password was just reset — the account
in the request *context*, not the one the session names — and queues the deletion of the
browser's own cookie. -/
theorem C06_reset_revokes_tokens (c : Ctx) (u : User) (b : Bool) (hu : c.ctxUser = some u) (ho : oracle c = none) :
    (∀ t, (u.pid, t) ∉ (rememberAfterReset b c).2.store.tokens) ∧
    (∀ p t, p ≠ u.pid → ((p, t) ∈ (rememberAfterReset b c).2.store.tokens ↔ (p, t) ∈ c.store.tokens)) ∧
    Act.cook .delRm ∈ (rememberAfterReset b c).2.acts := by
  -- queuing the cookie deletion and logging do not move the fault oracle
  have ho' : ∀ a l, oracle { c with acts := a, log := l } = none := fun _ _ => ho
  unfold rememberAfterReset
  simp only [exec, currentUser_ctx hu, ho']
  simp +contextual [List.mem_filter, tick]

/-- The hook is registered, for every load order in which `remember` is loaded. -/
theorem C06_hook_registered : Unit.after .remember .recoverEnd = [rememberAfterReset] := rfl

end AuthbossModel.M
