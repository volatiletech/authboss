/-
  C07 — Remember-me cookies are single-use, bound to one user, and grant only half-auth.
-/
import Proofs.Dispatch

namespace AuthbossModel.M

/-- **C07_codec.** For *every* PID byte string (including `;`, `;;`, NUL, the PIDs the library
builds for OAuth2 users) and every 32-byte nonce, the PID parsed back from the raw token is
the PID it was generated for.  (False before the `fix:` that splits at the nonce length.) -/
theorem C07_codec (pid nonce : Bytes) (hn : nonce.length = 32) :
    rememberPid (rememberRaw pid nonce) = some pid := by
  unfold rememberPid rememberRaw
  have hl : (pid ++ [59] ++ nonce).length = pid.length + 33 := by simp [hn]
  simp only [hl]
  have h1 : ¬ (pid.length + 33 < 33) := by omega
  simp only [h1, if_false]
  have h2 : pid.length + 33 - 33 = pid.length := by omega
  rw [h2]
  have h3 : (pid ++ [59] ++ nonce)[pid.length]? = some 59 := by
    rw [List.append_assoc, List.getElem?_append_right (by omega)]; simp
  simp [h3, List.take_append_of_le_length, List.append_assoc]

/-- Instantiated at the identifiers `MakeOAuth2PID` builds. -/
theorem C07_codec_oauth (provider uid nonce : Bytes) (hn : nonce.length = 32) :
    rememberPid (rememberRaw (makeOAuth2PID provider uid) nonce) = some (makeOAuth2PID provider uid) :=
  C07_codec _ _ hn

/-- Anything shorter than a separator plus a nonce, or without the separator in place, names nobody. -/
theorem C07_malformed (raw : Bytes) (h : raw.length < 33) : rememberPid raw = none := by
  simp [rememberPid, h]

/-- **C07_bound_to_user / only stored tokens.** The remember middleware writes an identity
`U` only if the cookie decodes to a raw token that names `U` *and* that exact token is in
storage for `U` (`rememberAuthenticate_safe`). -/
theorem C07_only_stored (c0 : Ctx) :
    Safe (fun U => ∃ raw, c0.rm = some (.raw raw) ∧ rememberPid raw = some U ∧ (U, raw) ∈ c0.store.tokens)
      rememberAuthenticate c0 :=
  (rememberAuthenticate_run c0).safe.mono fun _ ⟨raw, _, h1, h2, h3⟩ => ⟨raw, h1, h2, (useToken_true h3).2.1⟩

/-- **C07_single_use.** A successful use removes one occurrence of the token from storage. -/
theorem C07_single_use {pid raw : Bytes} {c c' : Ctx} (h : useToken pid raw c = (.ok (some true), c')) :
    c'.store.tokens = c.store.tokens.erase (pid, raw) :=
  (useToken_true h).2.2

/-- so a token that occurred once is gone: presenting the same cookie again finds nothing. -/
theorem C07_dead_after_use (toks : List (Bytes × Bytes)) (t : Bytes × Bytes) (h1 : toks.count t = 1) :
    t ∉ toks.erase t := by
  rw [← List.count_eq_zero, List.count_erase_self, h1]

/-- **C07_issue_only_if_asked.** `RememberAfterAuth` adds a token / cookie only when the
request's values say `rm = "true"`. -/
theorem C07_issue_only_if_asked (b : Bool) (c : Ctx) (h : c.values = false ∨ c.rmValue = false) :
    rememberAfterAuth b c = (.ok false, c) := by
  unfold rememberAfterAuth
  rcases h with h | h <;> simp [exec, h]

/-! ### Non-vacuity / regression examples (kernel-evaluated) -/

example : rememberPid (rememberRaw (lit "oauth2;;google;;u;1") (List.replicate 32 7)) = some (lit "oauth2;;google;;u;1") := by decide +kernel
example : rememberPid (lit "no-separator-here-xxxxxxxxxxxxxxxxxxxxxxxxxxxxxxxxx") = none := by decide +kernel

end AuthbossModel.M
