/-
  C08 — The access middleware admits a request exactly when its requirements are met.
  `accessMW` transcribes `MountedMiddleware2` (authboss.go), `Url`/`PathClean` the stdlib
  functions it uses to build the login redirect.
-/
import Proofs.Dispatch
import Proofs.Veto

namespace AuthbossModel.Url

theorem unhex_hexUp (n : UInt8) (h : n < 16) : unhex (hexUp n) = some n := by
  have table : ∀ k : Fin 16, unhex (hexUp (.ofNat k)) = some (.ofNat k) := by decide +kernel
  simpa using table ⟨n.toNat, h⟩

theorem nibbles (b : UInt8) : b / 16 < 16 ∧ b % 16 < 16 ∧ b / 16 * 16 + b % 16 = b := by
  have := b.toNat_lt
  simp [UInt8.lt_iff_toNat_lt, ← UInt8.toNat_inj]
  omega

theorem unreserved_ne (b : UInt8) (h : unreserved b = true) : b ≠ 37 ∧ b ≠ 43 := by
  constructor <;> rintro rfl <;> exact absurd h (by decide)

theorem unescape_byte (b : UInt8) (rest : Bytes) :
    queryUnescape (escapeByte b ++ rest) = (queryUnescape rest).map (b :: ·) := by
  unfold escapeByte
  split
  · rename_i hu
    obtain ⟨h37, h43⟩ := unreserved_ne b hu
    simp [queryUnescape, *]
  · split
    · rename_i hs
      obtain rfl : b = 32 := by simpa using hs
      rfl
    · obtain ⟨hhi, hlo, hb⟩ := nibbles b
      simp only [List.cons_append, List.nil_append, queryUnescape, unhex_hexUp, hhi, hlo]
      cases queryUnescape rest <;> simp [hb]

/-- **C08_escape_roundtrip.** `url.QueryUnescape (url.QueryEscape x) = x` for every byte string:
the original path and query survive the trip through the `redir` parameter. -/
theorem C08_escape_roundtrip (x : Bytes) : queryUnescape (queryEscape x) = some x := by
  induction x with
  | nil => rfl
  | cons b rest ih =>
    show queryUnescape (escapeByte b ++ queryEscape rest) = _
    rw [unescape_byte, ih]
    rfl

end AuthbossModel.Url

namespace AuthbossModel.M

/-- The requirement part of the middleware's decision (`hasBit` on the bit set, so every
`MWRequirements` value is covered, not just the named ones). -/
def reqsFail (reqs : Nat) (c : Ctx) : Bool :=
  (hasBit reqs 1 && (c.sess.get .halfauth).isSome) || (hasBit reqs 2 && (c.sess.get .twofactor).isNone)
def reqsMet (reqs : Nat) (c : Ctx) : Bool := !reqsFail reqs c

theorem reqsMet_true {reqs c} (h : reqsMet reqs c = true) : reqsFail reqs c = false := by
  unfold reqsMet at h; cases hf : reqsFail reqs c <;> simp_all
theorem reqsMet_false {reqs c} (h : reqsMet reqs c = false) : reqsFail reqs c = true := by
  unfold reqsMet at h; cases hf : reqsFail reqs c <;> simp_all

/-- **C08_only_if.** The wrapped handler (represented by an observable marker action) runs only
if every configured requirement holds and storage could load the session's user. -/
theorem C08_only_if (mp : Bool) (reqs fl : Nat) (path rq m : Bytes) (c : Ctx) :
    Safe (fun _ => reqsMet reqs c = true ∧ ∃ u c1, loadCurrentUser c = (.ok (.found u), c1))
      (accessMW mp reqs fl path rq (putS .uid m)) c := by
  refine Run.safe ?_
  unfold accessMW
  run_auto
  exact ⟨(Bool.not_eq_true' _).mpr (Bool.eq_false_iff.mpr ‹¬(_ || _) = true›), _, _, ‹loadCurrentUser c = _›⟩

/-- **C08_if.** Conversely, when the requirements hold and the user loads, the middleware *is*
the wrapped handler run in the context that has the user and its id loaded. -/
theorem C08_if (mp : Bool) (reqs fl : Nat) (path rq : Bytes) (next : H PUnit) (c c1 : Ctx) (u : User)
    (hreq : reqsMet reqs c = true) (hl : loadCurrentUser c = (.ok (.found u), c1)) :
    accessMW mp reqs fl path rq next c = next c1 := by
  have h := reqsMet_true hreq
  unfold reqsFail at h
  unfold accessMW
  simp only [exec, h, Bool.false_eq_true, if_false, hl]

/-- **C08_refusal.** When a requirement fails the handler does not run and the answer is the
configured refusal: 404 / 401 / a redirect to the login page carrying the original target. -/
theorem C08_refusal_status (mp : Bool) (reqs : Nat) (path rq : Bytes) (next : H PUnit) (c : Ctx)
    (hreq : reqsMet reqs c = false) :
    (accessMW mp reqs 0 path rq next c).2.acts = c.acts ++ [.respond (.status 404)] ∧
    (accessMW mp reqs 2 path rq next c).2.acts = c.acts ++ [.respond (.status 401)] := by
  have h := reqsMet_false hreq
  unfold reqsFail at h
  unfold accessMW
  simp only [exec, h, if_true, and_self]

/-- The redirect target of the refusal: `Mount/login?redir=` + the escaped original path (with
the mount prefix for library routes) and query; by `C08_escape_roundtrip` the login page gets
the original back. -/
theorem C08_redirect_target (mp : Bool) (path rq : Bytes) :
    ∃ target, loginRedirect mp path rq = PathClean.join2 mount (lit "/login?redir=" ++ Url.queryEscape target) ∧
      Url.queryUnescape (Url.queryEscape target) = some target ∧
      target = (if mp && !mount.isEmpty then PathClean.join2 mount path else path) ++ (if rq.isEmpty then [] else [63] ++ rq) := by
  refine ⟨_, ?_, Url.C08_escape_roundtrip _, rfl⟩
  unfold loginRedirect
  by_cases h : rq.isEmpty = true <;> simp [h]

/-- A storage error while loading the user yields a 500 and the handler does not run. -/
theorem C08_storage_error (mp : Bool) (reqs fl : Nat) (path rq : Bytes) (next : H PUnit) (c c1 : Ctx)
    (hreq : reqsMet reqs c = true) (hl : loadCurrentUser c = (.ok .error, c1)) :
    (accessMW mp reqs fl path rq next c).2.acts = c1.acts ++ [.respond (.status 500)] := by
  have h := reqsMet_true hreq
  unfold reqsFail at h
  unfold accessMW
  simp only [exec, h, Bool.false_eq_true, if_false, hl]

/-! ### Non-vacuity -/
example : (Url.queryEscape (lit "/a b?x=1&y=%/é")).length > 0 ∧
    Url.queryUnescape (Url.queryEscape (lit "/p/1 a?x=1&y=%~")) = some (lit "/p/1 a?x=1&y=%~") := by decide +kernel

example : loginRedirect true (lit "/otp/add") (lit "a=1&b=%20c") =
    lit "/auth/login?redir=%2Fauth%2Fotp%2Fadd%3Fa%3D1%26b%3D%2520c" := by decide +kernel

end AuthbossModel.M
