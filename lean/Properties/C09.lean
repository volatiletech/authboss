/-
  C09 — An idle session expires and is fully hidden from everything downstream.
  `expired` / `expireMW` transcribe expire.go (`timeToExpiry`, `ServeHTTP`, `stateHider`);
  the stamp has one-second resolution (RFC 3339), which the model keeps (`floorSec`).
-/
import Proofs.StepUid

namespace AuthbossModel.M

/-- **C09_expired_iff.** The middleware treats the session as expired exactly when the stored
(whole-second) stamp plus `ExpireAfter` is not after now. -/
theorem C09_expired_iff (c : Ctx) (sec : Int) (h : c.sess.get .lastAction = some (decStr sec))
    (hp : parseSec (decStr sec) = some sec) :
    expired c = true ↔ sec * 1000000000 + c.cfg.expireAfter ≤ c.now := by
  unfold expired
  simp only [h, hp]
  constructor <;> intro hh <;> (simp at hh ⊢; omega)

/-- No stamp at all: not expired (the deadline starts at the first stamped request). -/
theorem C09_no_stamp (c : Ctx) (h : c.sess.get .lastAction = none) : expired c = false := by
  simp [expired, h]

/-- **C09_sequence (sound on both sides).** Let the last activity have happened at `t`
(stamp `floorSec t`).  A request at `now` with `now - t ≥ ExpireAfter` is expired; one with
`now - t < ExpireAfter - 1 s` is not.  (In between the one-second truncation decides — known
finding K1.) -/
theorem C09_gap_expires (t now E : Int) (h : now - t ≥ E) :
    floorSec t * 1000000000 + E ≤ now := by
  unfold floorSec
  have := Int.ediv_mul_le t (by decide : (1000000000 : Int) ≠ 0)
  omega

theorem C09_gap_survives (t now E : Int) (h : now - t < E - 1000000000) :
    ¬ (floorSec t * 1000000000 + E ≤ now) := by
  unfold floorSec
  have := Int.lt_ediv_add_one_mul_self t (by decide : (0 : Int) < 1000000000)
  omega

/-- K1 witness: activity at 0.9 s, `ExpireAfter` = 10 s, request at 10.5 s (gap 9.6 s < 10 s)
is nevertheless expired. -/
theorem C09_truncation_witness :
    floorSec 900000000 * 1000000000 + 10000000000 ≤ 10500000000 ∧ (10500000000 : Int) - 900000000 < 10000000000 := by
  decide

/-- **C09_hidden.** On an expired session the middleware queues the deletion of everything
outside the whitelist plus identity and stamp, clears the request context's user, and
restricts what downstream code can read to the whitelisted keys. -/
theorem C09_hidden (c : Ctx) (hu : (c.sess.get .uid).isSome = true) (he : expired c = true) :
    (expireMW c).2.acts = c.acts ++ [.sess (.delAll c.cfg.whitelist), .sess (.del .uid), .sess (.del .lastAction)] ∧
    (expireMW c).2.ctxPid = none ∧ (expireMW c).2.ctxUser = none ∧
    (∀ k, k ∉ c.cfg.whitelist → (expireMW c).2.sess.get k = none) ∧
    (∀ k v, (expireMW c).2.sess.get k = some v → c.sess.get k = some v) := by
  unfold expireMW
  simp only [exec, hu, he, if_true]
  refine ⟨by simp, trivial, trivial, fun k hk => ?_, fun k v hv => Jar.get_filter_sub hv⟩
  -- the restricted view is `c.sess.delAll c.cfg.whitelist` written out
  exact (Jar.get_delAll ..).trans (if_neg hk)

/-- Downstream code sees no current user on an expired session (identity not whitelisted). -/
theorem C09_no_current_user (c : Ctx) (hu : (c.sess.get .uid).isSome = true) (he : expired c = true)
    (hw : SKey.uid ∉ c.cfg.whitelist) :
    (currentUserID (expireMW c).2).1 = .ok [] := by
  obtain ⟨_, hp, _, hs, _⟩ := C09_hidden c hu he
  simp [currentUserID_eq, hp, hs .uid hw]

/-- **C09_live.** A live session is served unchanged and re-stamped with the current second. -/
theorem C09_live (c : Ctx) (hu : (c.sess.get .uid).isSome = true) (he : expired c = false) :
    (expireMW c).2.acts = c.acts ++ [.sess (.put .lastAction (decStr (floorSec c.now)))] ∧
    (expireMW c).2.sess = c.sess ∧ (expireMW c).2.ctxPid = c.ctxPid := by
  unfold expireMW
  simp [exec, hu, he, refreshExpiry]

/-- No identity in the session: the middleware does nothing. -/
theorem C09_anonymous (c : Ctx) (hu : c.sess.get .uid = none) : expireMW c = (.ok ⟨⟩, c) := by
  unfold expireMW
  simp [exec, hu]

/-- **C09_jar.** What the queued events leave in the browser's jar: every non-whitelisted
key, the identity and the stamp are gone; whitelisted keys keep their value. -/
theorem C09_jar (j : Jar) (wl : List SKey) (k : SKey) :
    (k ∉ wl → (((j.delAll wl).del .uid).del .lastAction).get k = none) ∧
    ((((j.delAll wl).del .uid).del .lastAction).get .uid = none) ∧
    ((((j.delAll wl).del .uid).del .lastAction).get .lastAction = none) ∧
    (∀ v, (((j.delAll wl).del .uid).del .lastAction).get k = some v → j.get k = some v) := by
  simp +contextual [Jar.get_del, Jar.get_delAll]

/-- **C09_login_stamps.** `expire.Setup` hooks `After(EventAuth)` (password, OTP, recover-and-
login, second factor) and stamps there. -/
theorem C09_login_stamps : Unit.after .expire .auth = [expireAfterAuth] := rfl

/-- … and (after the `fix:`) `After(EventOAuth2)` and `After(EventRegister)`: the OAuth2 callback
and the login that follows a registration start the idle clock as well. -/
theorem C09_oauth2_register_stamp :
    Unit.after .expire .oauth2 = [expireAfterAuth] ∧ Unit.after .expire .register = [expireAfterAuth] :=
  ⟨rfl, rfl⟩

/-- The stamp: the handler queues `last_action := now` (whole seconds) and never interrupts. -/
theorem C09_stamp_is_now (b : Bool) (c : Ctx) :
    (expireAfterAuth b c).1 = .ok false ∧
    (expireAfterAuth b c).2.acts = c.acts ++ [.sess (.put .lastAction (decStr (floorSec c.now)))] := by
  unfold expireAfterAuth refreshExpiry
  simp [exec]

set_option maxHeartbeats 4000000 in
/-- Kernel-evaluated: an OAuth2 login leaves a session that carries the stamp. -/
example :
    let cfg : Config := { units := [.oauth2, .expire], expireMW := true, expireAfter := 1000000000000 }
    let s0 := run cfg {} [.http (lit "b") .oauth2Start { provider := lit "stub", fresh := lit "st" } none]
    let s := run cfg s0 [.http (lit "b") .oauth2End { provider := lit "stub", state := lit "st", provUid := some (lit "u1") } none]
    ((s.browser (lit "b")).sess.get .uid).isSome ∧ ((s.browser (lit "b")).sess.get .lastAction).isSome := by decide +kernel

end AuthbossModel.M
