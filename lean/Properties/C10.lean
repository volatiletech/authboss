/-
  C10 — Logout leaves nothing behind that could authenticate or continue a login.
  Stated for *every* jar (not only reachable ones) and every whitelist.
-/
import Proofs.StepUid

namespace AuthbossModel.M

/-- The session events of `logout.Logout` (no event handler of any shipped unit listens to
`EventLogout`). -/
def logoutEvents (wl : List SKey) : List SEv := [.delAll wl, .del .uid, .del .halfauth, .del .lastAction]

def applyAll (j : Jar) (evs : List SEv) : Jar := evs.foldl Jar.apply j

theorem Jar.get_del_ne_none (j : Jar) (k : SKey) : (j.del k).get k = none := by simp

/-- **C10_jar.** After the logout events, for every jar and every whitelist: a key that is not
whitelisted is gone; the identity, half-auth mark and last-action stamp are gone *even if
whitelisted*; a surviving key kept its value. -/
theorem C10_jar (j : Jar) (wl : List SKey) (k : SKey) :
    (k ∉ wl → (applyAll j (logoutEvents wl)).get k = none) ∧
    ((applyAll j (logoutEvents wl)).get .uid = none) ∧
    ((applyAll j (logoutEvents wl)).get .halfauth = none) ∧
    ((applyAll j (logoutEvents wl)).get .lastAction = none) ∧
    (∀ v, (applyAll j (logoutEvents wl)).get k = some v → j.get k = some v) := by
  -- each lookup becomes a cascade of `if`s over the four deletions
  simp +contextual [applyAll, logoutEvents, Jar.apply, Jar.get_del, Jar.get_delAll]

/-- **C10_sensitive.** In particular every session key any package of the library defines —
identity, half-auth, 2FA mark, e-mail-verification token and mark, OAuth2 state and
parameters, TOTP secret / pending, SMS number / secret / last / pending — is gone unless the
application whitelisted it (and the first three are gone regardless). -/
theorem C10_sensitive (j : Jar) (wl : List SKey) (k : SKey)
    (hk : k ∈ [SKey.uid, .halfauth, .lastAction, .twofactor, .tfaToken, .tfaAuthed, .oauthState, .oauthParams,
               .totpSecret, .totpPending, .smsNumber, .smsSecret, .smsLast, .smsPending])
    (hw : k ∉ wl) : (applyAll j (logoutEvents wl)).get k = none :=
  (C10_jar j wl k).1 hw

/-- The cookie side: the remember cookie is removed. -/
theorem C10_cookie (c : Option Cookie) : applyC c .delRm = none := rfl

/-- No shipped unit registers a handler on `EventLogout`, so nothing can interrupt or add
to the logout handler's own events, whatever is loaded. -/
theorem C10_no_logout_hooks (u : Unit) : u.before .logout = [] ∧ u.after .logout = [] := by
  cases u <;> exact ⟨rfl, rfl⟩

/-! ### The handler queues exactly these events -/

/-- What the logout handler answers with. -/
def logoutAnswer (c : Ctx) : List Act :=
  if c.cfg.json then [.respond (.redirect root (some .loggedOut) none)]
  else [.sess (.put .flashOk (lit Txt.loggedOut.name)), .respond (.redirect root (some .loggedOut) none)]

/-- **C10_handler_events.** With no backend failure, whatever modules are loaded and whoever
(if anybody) is logged in: the logout handler queues exactly the four session deletions of
`logoutEvents`, the deletion of the remember cookie, then its answer — in that order, nothing
before them and nothing in between. -/
theorem C10_handler_events (c : Ctx) (hf : c.fault = none) :
    (logoutHandler c).1 = .ok ⟨⟩ ∧
    (logoutHandler c).2.acts =
      c.acts ++ (logoutEvents c.cfg.whitelist).map Act.sess ++ [.cook .delRm] ++ logoutAnswer c := by
  -- whoever `CurrentUser` finds only decides the log line; no unit listens to the logout events
  obtain ⟨r, c1, h1, hc1⟩ := currentUser_total c
  have hb := before_nil (e := .logout) nofun nofun nofun c.cfg.units
  have ha := after_nil (e := .logout) nofun nofun nofun nofun nofun c.cfg.units
  unfold logoutHandler
  by_cases hj : c.cfg.json = true <;> rcases hc1 with rfl | rfl <;> cases r <;>
    simp [exec, h1, hb, ha, M.redirect, redirTarget, oracle, tick, hf, logoutAnswer, logoutEvents, hj]

/-! ### Non-vacuity: a session in the middle of everything, whitelist keeping one app key -/
example :
    applyAll [(.uid, lit "a"), (.halfauth, lit "true"), (.totpPending, lit "v"), (.smsSecret, lit "123456"),
              (.oauthState, lit "s"), (.other (lit "app_pref"), lit "dark"), (.tfaAuthed, lit "true")]
      (logoutEvents [.other (lit "app_pref"), .uid]) = [(.other (lit "app_pref"), lit "dark")] := by decide +kernel

end AuthbossModel.M
