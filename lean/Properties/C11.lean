/-
  C11 — Session/cookie changes reach the client exactly once, in order, before the body.
  Theorems quantify over *every* handler program (`List HOp`, any length) and, where
  stated, every fault/store configuration `Cfg`.
-/
import AuthbossModel.ClientState
import Proofs.ClientState

namespace AuthbossModel.CS

/-! ## Property theorems -/

/-- **C11 (characterisation).**  For every handler program, with working stores, what
leaves the response writer is exactly: nothing at all if the handler never writes;
otherwise one `WriteState` per store that has pending changes, carrying exactly the
changes made for *that* store *before the first write*, in program order — session
first, then cookie — followed by the handler's header/body writes and nothing else. -/
theorem C11_characterisation (p : List HOp) :
    (run ok p).out =
      if (post p).isEmpty then []
      else flushCalls (evsOf .session (pre p)) (evsOf .cookie (pre p)) ++ writesOf (post p) := by
  cases hp : (post p).isEmpty
  · simp [run_of_flush ok p hp (by rw [flush_ok]), flush_ok, W.pass]
  · simp [run_split, List.isEmpty_iff.mp hp, runFrom, W.pass]

/-- **C11_once / C11_no_replay.** Whatever the program does after its first write
(more puts, more writes, any number of them) adds no store call. -/
theorem C11_no_replay (p q : List HOp) (hw : (post p).isEmpty = false) :
    (run ok (p ++ q)).out = (run ok p).out ++ writesOf q := by
  rw [run, runFrom_append, ← run, run_of_flush ok p hw (by rw [flush_ok]), flush_ok,
    runFrom_quiet ok _ q rfl fun _ _ _ => rfl]
  rfl

/-- **C11_once.** At most one `WriteState` per store, for every program and **every**
fault / store configuration (missing stores, failing stores). -/
theorem C11_once (c : Cfg) (p : List HOp) (s : Store) :
    ((run c p).out.filter (Out.isCallOf s)).length ≤ 1 := by
  obtain ⟨a, b, tail, ht, ho, -⟩ := run_shape c p
  have : tail.filter (Out.isCallOf s) = [] :=
    List.filter_eq_nil_iff.mpr fun o h => by simp [isCallOf_of_not_isCall o s (ht o h)]
  rw [ho]
  cases a <;> cases b <;> cases s <;> simp [this, Out.isCallOf]

/-- **C11_before_bytes.** In every configuration (including failing stores) every store
call precedes every header/body byte: the output is "calls, then non-calls". -/
theorem C11_before_bytes (c : Cfg) (p : List HOp) :
    (run c p).out = (run c p).out.filter Out.isCall ++ (run c p).out.filter (fun o => !o.isCall) := by
  obtain ⟨a, b, tail, ht, ho, -⟩ := run_shape c p
  have e1 : tail.filter Out.isCall = [] := List.filter_eq_nil_iff.mpr fun o h => by simp [ht o h]
  have e2 : tail.filter (fun o => !o.isCall) = tail :=
    List.filter_eq_self.mpr fun o h => by simp [ht o h]
  rw [ho]
  cases a <;> cases b <;> simp [List.filter_cons, e1, e2]

/-- **C11_nothing_before_flush.** In every configuration, a handler that never writes
delivers nothing (neither a store call nor a byte). -/
theorem C11_silent_if_no_write (c : Cfg) (p : List HOp) (h : (run c p).hasWritten = false) :
    (run c p).out = [] :=
  have ⟨_, _, _, _, _, hs⟩ := run_shape c p
  hs h

/-- **C11_separation.** A session operation never shows up in the cookie call and vice
versa: the call for store `s` carries exactly `evsOf s`, which by definition only
contains operations addressed to `s`. Stated as: every event delivered to `s` was made
by an operation on `s`. -/
theorem C11_separation (p : List HOp) (s : Store) (evs : List Ev)
    (h : Out.call s evs ∈ (run ok p).out) :
    evs = evsOf s (pre p) ∧ ∀ e ∈ evs, ∃ op ∈ pre p, op.ev? = some (s, e) := by
  rw [C11_characterisation] at h
  split at h
  · simp at h
  · rcases List.mem_append.mp h with h | h
    · obtain ⟨rfl, -⟩ := (mem_flushCalls (evsOf · (pre p)) s evs).mp h
      exact ⟨rfl, fun e he => mem_evsOf.mp he⟩
    · exact absurd (isCall_of_mem_writesOf h) (by simp)

/-- **C11_delivered.** Conversely: if the program writes at all and made at least one
change to store `s` before its first write, that store receives its call (exactly the
pending list), with working stores. -/
theorem C11_delivered (p : List HOp) (s : Store)
    (hw : (post p).isEmpty = false) (hne : (evsOf s (pre p)).isEmpty = false) :
    Out.call s (evsOf s (pre p)) ∈ (run ok p).out := by
  rw [C11_characterisation, if_neg (by simp [hw])]
  exact List.mem_append_left _ ((mem_flushCalls (evsOf · (pre p)) s _).mpr ⟨rfl, hne⟩)

/-- **C11_read_snapshot.** What handlers read is the state loaded at request start:
`GetSession`/`GetCookie` consult the request context, which no writer operation
touches. In the model reads are a function of the loaded jar alone, so this holds by
construction; it is the correspondence stream that checks the real code agrees. -/
theorem C11_read_snapshot (loaded : Bytes → Option Bytes) (c : Cfg) (p : List HOp) (k : Bytes) :
    (fun (_ : W) => loaded k) (run c p) = loaded k := rfl

/-! ## Non-vacuity: a concrete non-trivial program meets the hypotheses and the
characterisation computes what one expects. -/

def demo : List HOp :=
  [.put .session (lit "uid") (lit "a"), .put .cookie (lit "rm") (lit "t"), .del .session (lit "halfauth"),
   .writeHeader 302, .put .session (lit "late") (lit "x"), .write (lit "body"), .writeHeader 500]

example : (post demo).isEmpty = false ∧ (evsOf .session (pre demo)).isEmpty = false := by decide +kernel

example : (run ok demo).out =
    [ .call .session [⟨.put, lit "uid", lit "a"⟩, ⟨.del, lit "halfauth", []⟩],
      .call .cookie [⟨.put, lit "rm", lit "t"⟩],
      .header 302, .body (lit "body"), .header 500 ] := by decide +kernel

/-- With a failing session store and a `WriteHeader` first, the handler dies (panic)
and no byte is released — the fault side of the model is exercised too. -/
example : (run { sessFail := true } demo).out =
    [ .call .session [⟨.put, lit "uid", lit "a"⟩, ⟨.del, lit "halfauth", []⟩], .panic ] := by decide +kernel

end AuthbossModel.CS
