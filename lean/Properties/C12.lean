/-
  C12 — One-time secrets are consumed by the login they enable and never work twice.
-/
import Proofs.Login

namespace AuthbossModel.M

/-! ### One-time passwords -/

/-- `Save` that reported success has written exactly the given record. -/
theorem save_false_stores {u c c'} (h : M.save u c = (Res.ok false, c')) : c'.store = c.store.upsert u := by
  rw [save_eq] at h
  split at h <;> cases h
  rfl

/-- **C12_otp_consumed_first.** `otp.LoginPost` writes the identity only on a path on which
the record *without* the matched one-time password has been saved successfully before
(error-checked `Save` ahead of `PutSession`). -/
theorem C12_otp_consumed_first (c0 : Ctx) :
    Safe (fun U => ∃ u i cX cY, c0.store.find U = some u ∧
        List.findIdx? (fun y => y == c0.req.pw) u.otps = some i ∧
        M.save { u with otps := swapRemove u.otps i } cX = (.ok false, cY))
      otpLoginPost c0 :=
  (otpLogin_run c0).safe.mono fun _ ⟨_, u, i, hf, hi, ⟨cX, cY, hs⟩, _⟩ => ⟨u, i, cX, cY, hf, hi, hs⟩

/-- The saved record really lacks one occurrence of the used value, and nothing else changed:
swap-remove shortens the list by one … -/
theorem C12_swapRemove_length (l : List Bytes) (i : Nat) (h : i < l.length) :
    (swapRemove l i).length + 1 = l.length := by
  obtain rfl | ⟨init, last, rfl⟩ := l.eq_nil_or_concat
  · cases h
  · simp [swapRemove_concat]

/-- … and what it drops is one occurrence of the element at position `i` (the matched one):
for every value `x`, its multiplicity in the result plus `[l[i] = x]` is its multiplicity
before.  So every *other* one-time password is kept, and a value stored once is gone. -/
theorem C12_swapRemove_count (l : List Bytes) (i : Nat) (h : i < l.length) (x : Bytes) :
    (swapRemove l i).count x + (if (l[i] == x) = true then 1 else 0) = l.count x := by
  obtain rfl | ⟨init, last, rfl⟩ := l.eq_nil_or_concat
  · cases h
  · simp only [List.concat_eq_append, swapRemove_concat, List.count_append, List.count_singleton]
    by_cases hi : i < init.length
    · have : (if (init[i] == x) = true then 1 else 0) ≤ init.count x := by
        split
        next he => exact beq_iff_eq.mp he ▸ List.count_pos_iff.mpr (List.getElem_mem hi)
        next => exact Nat.zero_le _
      rw [List.count_set hi, List.getElem_append_left hi]
      omega
    · have hi : i = init.length := by simp at h; omega
      simp [hi, List.set_eq_of_length_le]

/-! ### Recovery codes -/

/-- A recovery code is accepted only if stored, and acceptance removes exactly one code
(`C02_recovery_code_must_be_stored` has the statement; restated for the list that is saved). -/
theorem C12_recovery_removes_one (codes rest : List Bytes) (input : Bytes)
    (h : useRecoveryCode codes input = some rest) : input ∈ codes ∧ rest.length + 1 = codes.length := by
  rw [useRecoveryCode_eq] at h
  split at h
  next hm =>
    cases h
    have := List.length_pos_of_mem hm
    exact ⟨hm, by rw [List.length_erase_of_mem hm]; omega⟩
  next => cases h

/-- Values that were never issued (not in the stored list) never succeed. -/
theorem C12_unknown_code_rejected (codes : List Bytes) (input : Bytes) (h : input ∉ codes) :
    useRecoveryCode codes input = none := by
  rw [useRecoveryCode_eq, if_neg h]

/-! ### TOTP replay protection -/

/-- With replay protection (`UserOneTime`), a code equal to the stored last code is refused. -/
theorem C12_totp_norepeat (c : Ctx) (u : User) (hu : c.ctxUser = some u) (hs : u.totpSecret ≠ [])
    (hot : c.cfg.oneTime = true) (hr : c.req.rcode = []) (hrep : u.totpLast = c.req.code) :
    (totpValidate c).1 = .ok (some (u, .repeated)) := by
  unfold totpValidate tfaUser
  simp [exec, currentUser_ctx hu, hs, hr, hot, hrep]

/-! ### The limit of five one-time passwords -/

theorem C12_otp_limit (c : Ctx) (u : User) (hu : c.ctxUser = some u) (hfull : u.otps.length ≥ maxOTPs) :
    (otpAddPost c).2.store = c.store := by
  unfold otpAddPost
  simp only [exec, currentUser_ctx hu, hfull, if_true]
  split <;> rfl

end AuthbossModel.M
