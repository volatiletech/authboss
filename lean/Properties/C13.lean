/-
  C13 — Only the fully authenticated owner, proving the factor, can change 2FA settings.
-/
import Proofs.Kept
import Properties.C08

namespace AuthbossModel.M

/-- **C13_routes_gated.** Every route that enables, disables or re-keys a second factor, and
the e-mail authorisation routes, is the handler wrapped in the access middleware with
`RequireFullAuth` (and, for setup/confirm, in the e-mail-verification wrapper). -/
theorem C13_routes_gated :
    (∀ c, dispatch .totpConfirm c = (do
        let c' ← get
        if !(c'.cfg.has .totp) then status 404 else verified false (lit "/2fa/totp/confirm") totpPostConfirm) c) ∧
    (∀ c, dispatch .totpRemove c = (do
        let c' ← get
        if !(c'.cfg.has .totp) then status 404 else moduleMW 1 (lit "/2fa/totp/remove") totpPostRemove) c) ∧
    (∀ c, dispatch .smsConfirm c = (do
        let c' ← get
        if !(c'.cfg.has .sms) then status 404 else verified true (lit "/2fa/sms/confirm") (smsPost .confirm)) c) ∧
    (∀ c, dispatch .smsRemove c = (do
        let c' ← get
        if !(c'.cfg.has .sms) then status 404 else moduleMW 1 (lit "/2fa/sms/remove") (smsPost .remove)) c) ∧
    (∀ c, dispatch .recoveryRegen c = (do
        let c' ← get
        if !(c'.cfg.has .recovery) then status 404 else moduleMW 1 (lit "/2fa/recovery/regen") recoveryPostRegen) c) := by
  refine ⟨?_, ?_, ?_, ?_, ?_⟩ <;> intro c <;> rfl

/-- `RequireFullAuth`: with the half-auth mark in the session the wrapped handler does not run
(`C08_only_if` instantiated at requirement bit 1). -/
theorem C13_halfauth_refused (path rq m : Bytes) (c : Ctx) (h : (c.sess.get .halfauth).isSome = true) :
    Safe (fun _ => False) (accessMW true 1 0 path rq (putS .uid m)) c := by
  apply Safe.mono (C08_only_if true 1 0 path rq m c)
  intro U ⟨hr, _⟩
  unfold reqsMet reqsFail at hr
  simp [hasBit, h] at hr

/-- A session without identity (e.g. one that only passed the password step and holds a
pending key) is refused as well: the middleware needs a loadable current user. -/
theorem C13_pending_refused (path rq m : Bytes) (c : Ctx) (h1 : c.ctxUser = none) (h2 : c.ctxPid = none)
    (h3 : c.sess.get .uid = none) :
    Safe (fun _ => False) (accessMW true 1 0 path rq (putS .uid m)) c := by
  apply Safe.mono (C08_only_if true 1 0 path rq m c)
  intro U ⟨_, u, c1, hl⟩
  unfold loadCurrentUser at hl
  simp only [bind_apply, M.get, h1] at hl
  unfold M.currentUserID at hl
  simp [bind_apply, M.get, h2, h3, pure_apply] at hl

/-- **C13_email_gate.** With e-mail authorisation required, the wrapper lets the handler run
only if the session carries the mark … -/
theorem C13_email_wrap (kind : Bytes) (c : Ctx) (hreq : c.cfg.emailAuth = true)
    (hno : c.sess.get .tfaAuthed ≠ some (lit "true")) :
    ∃ c', emailVerifyWrap kind c = (.ok false, c') ∨ ∃ s, emailVerifyWrap kind c = (.stop s, c') := by
  unfold emailVerifyWrap
  simp only [bind_apply, M.get, hreq, Bool.not_true, Bool.false_eq_true, if_false]
  have : (c.sess.get .tfaAuthed == some (lit "true")) = false := by
    cases h : (c.sess.get .tfaAuthed == some (lit "true"))
    · rfl
    · exact absurd (by simpa using h) hno
  simp only [this, Bool.false_eq_true, if_false]
  rw [bind_apply]
  unfold M.swallowErr
  generalize M.redirect _ _ _ _ c = r
  obtain ⟨res, c'⟩ := r
  cases res with
  | ok a => exact ⟨c', Or.inl rfl⟩
  | stop s => cases s <;> first | exact ⟨c', Or.inl rfl⟩ | exact ⟨c', Or.inr ⟨_, rfl⟩⟩

/-- `a` is not among the acts queued between `c` and `c'`. -/
def NoNew (a : Act) (c c' : Ctx) : Prop := a ∈ c'.acts → a ∈ c.acts

instance (a : Act) : Pre (NoNew a) := ⟨fun _ h => h, fun h1 h2 h => h1 (h2 h)⟩

@[pres] theorem NoNew.backend (a) : Pres (NoNew a) M.backend := ⟨fun _ h => h⟩
@[pres] theorem NoNew.act {a a' : Act} (h : a' ≠ a) : Pres (NoNew a) (M.act a') :=
  ⟨fun c hm => (List.mem_append.mp hm).resolve_right (by simpa using Ne.symm h)⟩
@[pres] theorem NoNew.putS {a : Act} {k v} (h : Act.sess (.put k v) ≠ a) : Pres (NoNew a) (M.putS k v) := NoNew.act h

/-- `Redirector.Redirect` queues flash messages and its answer, never the e-mail-verified mark. -/
theorem redirect_no_authed (r : Bytes) (ok f : Option Txt) (fl : Bool) (c : Ctx)
    (hm : Act.sess (.put .tfaAuthed (lit "true")) ∈ (M.redirect r ok f fl c).2.acts) :
    Act.sess (.put .tfaAuthed (lit "true")) ∈ c.acts := by
  have : Pres (NoNew (.sess (.put .tfaAuthed (lit "true")))) (M.redirect r ok f fl) := by
    unfold M.redirect M.render
    pres_auto
    all_goals simp only [pres, ne_eq, reduceCtorEq, not_false_eq_true, Act.sess.injEq, SEv.put.injEq, false_and]
  exact this.run c hm

/-- … and the mark is set only by `End`, only when the session holds a non-empty token and the
submitted token equals it (after the `fix:`; before it the empty/empty case passed). -/
theorem C13_email_end (p : Bytes) (c : Ctx)
    (h : Act.sess (.put .tfaAuthed (lit "true")) ∈ (emailVerifyEnd p c).2.acts)
    (hnot : Act.sess (.put .tfaAuthed (lit "true")) ∉ c.acts) :
    ∃ tok, c.sess.get .tfaToken = some tok ∧ tok ≠ [] ∧ c.req.tokenRaw = tok := by
  unfold emailVerifyEnd at h
  simp only [bind_apply, M.get] at h
  cases hs : c.sess.get .tfaToken with
  | none =>
    exfalso
    simp only [hs, Option.getD_none, List.isEmpty_nil, Bool.true_or, if_true] at h
    exact hnot (redirect_no_authed _ _ _ _ _ h)
  | some tok =>
    refine ⟨tok, rfl, ?_⟩
    by_cases hbad : (tok.isEmpty || c.req.tokenRaw != tok) = true
    · exfalso
      simp only [hs, Option.getD_some, hbad, if_true] at h
      exact hnot (redirect_no_authed _ _ _ _ _ h)
    · simp only [Bool.or_eq_true, not_or] at hbad
      constructor
      · intro he; apply hbad.1; simp [he]
      · have := hbad.2; simpa using this

/-- **C13_confirm_needs_code.** TOTP enrolment stores a secret only if the session holds one,
the submitted code is valid *for that secret*, and what is stored *is* that secret. -/
theorem C13_totp_confirm (c : Ctx) (u : User) (hu : c.ctxUser = some u)
    (hchg : (totpPostConfirm c).2.store ≠ c.store) :
    ∃ secret, c.sess.get .totpSecret = some secret ∧ secret ∈ c.req.totpOk := by
  unfold totpPostConfirm at hchg
  simp only [bind_apply, currentUser_ctx hu, M.get] at hchg
  cases hs : c.sess.get .totpSecret with
  | none => simp [hs, M.fail, M.stop] at hchg
  | some secret =>
    refine ⟨secret, rfl, ?_⟩
    by_cases hin : secret ∈ c.req.totpOk
    · exact hin
    · exfalso
      apply hchg
      simp only [hs, List.contains_eq_mem, hin, decide_false, Bool.not_false, if_true]
      exact (SameStore.respond ..).run c


/-! ### Disabling a factor -/

theorem respond_store (p t) (c : Ctx) : (M.respond p t c).2.store = c.store := (SameStore.respond p t).run c

/-- Saving a record, announcing it, answering: storage ends up unchanged (the save failed) or
with exactly that record written. -/
theorem save_then_answer_store (u' : User) (pg : Page) (msg : String) (ev : Ev) (hev : ev = .tfaRemoved) (c2 : Ctx) :
    let r := (do
      if ← M.save u' then M.fail "save" else
      M.logf msg [u'.pid]
      M.setCtxUser u'
      if ← M.fireAfter ev then M.stop .done else
      M.respond pg : H PUnit) c2
    r.2.store = c2.store ∨ r.2.store = c2.store.upsert u' := by
  subst hev
  simp only
  unfold M.save
  simp only [bind_apply, backend_eq]
  cases oracle c2 with
  | some k => left; simp [pure_apply, M.fail, M.stop, tick]
  | none =>
    right
    simp only [exec, Bool.false_eq_true, if_false, after_nil (e := .tfaRemoved) nofun nofun nofun nofun nofun]
    split <;> rfl

/-- **C13_totp_remove.** Disabling TOTP: relative to what `totpValidate` left in storage, the
removal handler changes storage only when `totpValidate` reported success (a current code for
the user's secret, or one of the user's recovery codes — `C02_totp_success_means`), and then
only by writing that user's record with the secret cleared. -/
theorem C13_totp_remove (c : Ctx) :
    (∀ u c1, totpValidate c = (.ok (some (u, .success)), c1) →
        (totpPostRemove c).2.store = c1.store ∨
        (totpPostRemove c).2.store = c1.store.upsert { u with totpSecret := [] }) ∧
    (∀ r c1, totpValidate c = (r, c1) → (∀ u, r ≠ .ok (some (u, .success))) →
        (totpPostRemove c).2.store = c1.store) := by
  constructor
  · intro u c1 hv
    unfold totpPostRemove
    rw [bind_apply, hv]
    simp only [bne_self_eq_false, Bool.false_eq_true, if_false, bind_apply, M.delS, M.act, M.modify, M.writeBack]
    cases hcu : c1.ctxUser with
    | none =>
      simp only
      exact save_then_answer_store { u with totpSecret := [] } _ _ .tfaRemoved rfl _
    | some w =>
      simp only
      exact save_then_answer_store { u with totpSecret := [] } _ _ .tfaRemoved rfl _
  · intro r c1 hv hns
    unfold totpPostRemove
    rw [bind_apply, hv]
    cases r with
    | stop s => rfl
    | ok o =>
      cases o with
      | none => simp only; exact respond_store _ _ _
      | some p =>
        obtain ⟨u, st⟩ := p
        cases st with
        | success => exact absurd rfl (hns u)
        | invalid => simp [bind_apply, M.logf, M.modify, respond_store]
        | repeated => simp [bind_apply, M.logf, M.modify, respond_store]

end AuthbossModel.M
