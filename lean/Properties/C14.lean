/-
  C14 — OAuth2 callbacks need the session's own unused state and bind the named identity.
-/
import Proofs.Dispatch
namespace AuthbossModel.M

/-- Splitting at the first `;`: two strings `p ++ ; ++ r` with `;`-free `p` agree only if the
parts agree. -/
theorem split_first_semi (p1 p2 r1 r2 : Bytes) (h1 : (59 : UInt8) ∉ p1) (h2 : (59 : UInt8) ∉ p2)
    (h : p1 ++ 59 :: r1 = p2 ++ 59 :: r2) : p1 = p2 ∧ r1 = r2 := by
  induction p1 generalizing p2 with
  | nil =>
    cases p2 with
    | nil => simpa using h
    | cons b p2 =>
      simp at h
      have : b = 59 := h.1.symm
      subst this
      simp at h2
  | cons a p1 ih =>
    cases p2 with
    | nil =>
      simp at h
      have : a = 59 := h.1
      subst this
      simp at h1
    | cons b p2 =>
      simp only [List.cons_append, List.cons.injEq] at h
      have h1' : (59 : UInt8) ∉ p1 := fun hm => h1 (List.mem_cons_of_mem _ hm)
      have h2' : (59 : UInt8) ∉ p2 := fun hm => h2 (List.mem_cons_of_mem _ hm)
      obtain ⟨hp, hr⟩ := ih p2 h1' h2' h.2
      exact ⟨by rw [h.1, hp], hr⟩

/-- **C14_pid_injective.** For provider names free of the separator character `;`, distinct
`(provider, uid)` pairs never map to the same account identifier — for *all* uid byte
strings (including ones containing `;` and `;;`). -/
theorem C14_pid_injective (p1 p2 u1 u2 : Bytes) (h1 : (59 : UInt8) ∉ p1) (h2 : (59 : UInt8) ∉ p2)
    (h : makeOAuth2PID p1 u1 = makeOAuth2PID p2 u2) : p1 = p2 ∧ u1 = u2 := by
  unfold makeOAuth2PID at h
  have h' : p1 ++ 59 :: (59 :: u1) = p2 ++ 59 :: (59 :: u2) := by
    have := List.append_cancel_left (by simpa [List.append_assoc] using h : lit "oauth2;;" ++ (p1 ++ lit ";;" ++ u1) = lit "oauth2;;" ++ (p2 ++ lit ";;" ++ u2))
    simpa [lit, List.append_assoc] using this
  obtain ⟨hp, hr⟩ := split_first_semi p1 p2 _ _ h1 h2 h'
  exact ⟨hp, by simpa using hr⟩

/-- The boundary is sharp: a provider name *ending* in `;` collides. -/
theorem C14_pid_sharp :
    makeOAuth2PID (lit "a") (lit ";b") = makeOAuth2PID (lit "a;") (lit "b") := by decide

/-- **C14_callback_needs_state / identity.** The callback writes identity `U` only if the
session holds a state equal to the submitted one, the provider reported no error, and `U`
is exactly the identifier of the (provider, uid) pair the provider reported. -/
theorem C14_callback (c0 : Ctx) :
    Safe (fun U => c0.sess.get .oauthState = some c0.req.state ∧ c0.req.oerr = [] ∧
      ∃ puid, c0.req.provUid = some puid ∧ U = makeOAuth2PID c0.req.provider puid) oauth2End c0 :=
  (oauth2End_run c0).safe.mono fun _ ⟨h1, h2, puid, h3, h4, _⟩ => ⟨h1, h2, puid, h3, h4⟩

/-- **C14_no_state_no_effect.** Without a matching session state the callback fails before it
touches anything: no session write, no store change. -/
theorem C14_no_state_no_effect (c : Ctx) (h : c.sess.get .oauthState ≠ some c.req.state) :
    (oauth2End c).2.store = c.store ∧ (oauth2End c).2.acts = c.acts ∧ ∃ e, (oauth2End c).1 = .stop (.err e) := by
  unfold oauth2End
  simp only [bind_apply, M.get, M.logf, M.modify]
  cases hs : c.sess.get .oauthState with
  | none => exact ⟨rfl, rfl, _, rfl⟩
  | some want =>
    have hne : c.req.state ≠ want := by intro he; apply h; rw [hs, he]
    simp only [bne_iff_ne, ne_eq, hne, not_false_eq_true, if_true]
    exact ⟨rfl, rfl, _, rfl⟩

/-! ### The state is spent by the first matching callback -/

/-- **C14_state_spent.** A callback whose `state` matches the one in the session deletes the
state (and the stored parameters) from the session *first*: whatever happens afterwards —
provider error, failing exchange, veto, success — the two deletions are the first things it
queues, so the response that answers it spends the state. -/
theorem C14_state_spent (c : Ctx) (want : Bytes) (hs : c.sess.get .oauthState = some want)
    (hm : c.req.state = want) :
    ∃ ext, (oauth2End c).2.acts = c.acts ++ [.sess (.del .oauthState), .sess (.del .oauthParams)] ++ ext := by
  -- whatever runs after the two deletions only appends to them
  suffices h : ∀ (k : H PUnit) (c2 : Ctx), Pres Appended k →
      c2.acts = c.acts ++ [.sess (.del .oauthState), .sess (.del .oauthParams)] →
      ∃ ext, (k c2).2.acts = c.acts ++ [.sess (.del .oauthState), .sess (.del .oauthParams)] ++ ext by
    unfold oauth2End
    simp only [exec, hs, hm, bne_self_eq_false, Bool.false_eq_true, if_false]
    apply h
    · pres_auto
      -- the leaves are quiet, but for the write of the identity: an append too
      all_goals first
        | (refine Pres.mono (R := Quiet) (fun _ _ h => h.2.1) ?_; simp only [pres, ne_eq, reduceCtorEq, not_false_eq_true]; done)
        | exact ⟨fun _ => ⟨_, rfl⟩⟩
    · simp
  intro k c2 hk h2
  obtain ⟨ext, he⟩ := hk.run c2
  exact ⟨ext, by rw [he, h2]⟩

/-! ### Non-vacuity -/
example : makeOAuth2PID (lit "google") (lit "u;;1") ≠ makeOAuth2PID (lit "github") (lit "u;;1") := by decide +kernel

end AuthbossModel.M
