/-
  C15 — Client-supplied return targets never redirect off-site.
  For *every* byte string `v`: if the guard lets `v` through, neither `v` itself (the JSON
  `location` answer) nor what `http.Redirect` makes of it (the `Location` header) is a
  reference a browser resolves to another origin.
-/
import AuthbossModel.Redirect

namespace AuthbossModel.Redirect
open AuthbossModel.PathClean

/-- The shape the whole argument turns on (RFC 3986's path-absolute form, over the guard's
alphabet): `/`, then nothing or a byte that is neither `/` nor `\`, and no byte the guard
refuses. The guard establishes it, `goRedirect` preserves it, and `offSite` is false of it. -/
def Rooted (v : Bytes) : Prop :=
  ∃ tail, v = 47 :: tail ∧ (∀ c t, tail = c :: t → c ≠ 47 ∧ c ≠ 92) ∧ ∀ c ∈ tail, badByte c = false

theorem badByte_eq_false {c : UInt8} : badByte c = false ↔ 32 < c ∧ c ≠ 127 ∧ c ≠ 92 := by
  simp [badByte, and_assoc]

theorem Rooted.good {v : Bytes} (h : Rooted v) : ∀ c ∈ v, badByte c = false := by
  obtain ⟨tail, rfl, -, hb⟩ := h
  exact List.forall_mem_cons.mpr ⟨by decide, hb⟩

theorem guard_rooted {v : Bytes} (h : guard v = true) : Rooted v := by
  cases v with
  | nil => cases h
  | cons c0 rest =>
    simp only [guard, Bool.and_eq_true, beq_iff_eq, Bool.not_eq_true', List.any_eq_false] at h
    obtain ⟨⟨⟨rfl, h1⟩, h2⟩, -⟩ := h
    refine ⟨rest, rfl, ?_, fun c hc => by simpa using h2 c (.tail _ hc)⟩
    rintro c1 r rfl
    simpa using h1

theorem dropWhile_eq_self {α} {p : α → Bool} {l : List α} (h : ∀ a ∈ l, p a = false) :
    l.dropWhile p = l := by
  cases l <;> simp_all

theorem preprocess_id (v : Bytes) (h : ∀ c ∈ v, 32 < c) : preprocess v = v := by
  have hle : ∀ c ∈ v, decide (c ≤ 32) = false := fun c hc => by simpa using h c hc
  simp only [preprocess]
  rw [dropWhile_eq_self hle, dropWhile_eq_self (by simpa using hle), List.reverse_reverse,
    List.filter_eq_self]
  intro c hc
  have := h c hc
  -- TAB, LF and CR lie below the space
  simp only [Bool.not_eq_true', Bool.or_eq_false_iff, beq_eq_false_iff_ne]
  refine ⟨⟨?_, ?_⟩, ?_⟩ <;> rintro rfl <;> exact absurd this (by decide)

theorem offSite_rooted {v : Bytes} (h : Rooted v) : offSite v = false := by
  unfold offSite
  rw [preprocess_id v fun c hc => (badByte_eq_false.mp (h.good c hc)).1]
  obtain ⟨tail, rfl, h1, -⟩ := h
  cases tail with
  | nil => decide
  | cons c r => simp [hasScheme, isAlpha, isSlashish, h1 c r rfl]

/-- **C15_value_same_site.** The value itself — what the JSON answer carries. -/
theorem C15_value_same_site (v : Bytes) (h : guard v = true) : offSite v = false :=
  offSite_rooted (guard_rooted h)

theorem splitSlash_mem (p : Bytes) : ∀ seg ∈ splitSlash p, ∀ c ∈ seg, c ∈ p ∧ c ≠ 47 := by
  fun_induction splitSlash p <;> grind [slash]

theorem cleanSegs_mem (rooted : Bool) (stack segs : List Bytes) :
    ∀ s ∈ cleanSegs rooted stack segs, s ∈ stack ∨ s ∈ segs ∧ s ≠ [] := by
  fun_induction cleanSegs rooted stack segs <;> grind

theorem joinSlash_mem (segs : List Bytes) : ∀ c ∈ joinSlash segs, c = 47 ∨ ∃ s ∈ segs, c ∈ s := by
  fun_induction joinSlash segs <;> grind [slash]

theorem joinSlash_head {segs : List Bytes} (h : ∀ s ∈ segs, s ≠ []) {c : UInt8} {t : Bytes}
    (e : joinSlash segs = c :: t) : ∃ s ∈ segs, c ∈ s := by
  match segs with
  | [] => cases e
  | [] :: _ => exact absurd rfl (h [] (.head _))
  | (a :: r) :: ss => cases ss <;> cases e <;> exact ⟨_, .head _, .head _⟩

/-- A rooted path without bad bytes cleans to `/` followed by nothing, or by a byte that is
neither `/` nor `\`; and the result has no bad byte either, as each of its bytes is `/` or a
byte of the input. -/
theorem clean_rooted (rest : Bytes) (hb : ∀ c ∈ (47 : UInt8) :: rest, badByte c = false) :
    ∃ body, clean (47 :: rest) = 47 :: body ∧
      (∀ c t, body = c :: t → c ≠ 47 ∧ c ≠ 92) ∧ (∀ c ∈ body, badByte c = false) := by
  -- the segments that survive are non-empty, free of `/`, and made of bytes of the input
  have hseg : ∀ s ∈ cleanSegs true [] (splitSlash (47 :: rest)),
      s ≠ [] ∧ ∀ c ∈ s, c ∈ 47 :: rest ∧ c ≠ 47 := by
    intro s hs
    obtain h | ⟨h, hne⟩ := cleanSegs_mem _ _ _ s hs
    · cases h
    · exact ⟨hne, splitSlash_mem _ s h⟩
  refine ⟨joinSlash (cleanSegs true [] (splitSlash (47 :: rest))), by simp [clean, slash], ?_, ?_⟩
  · intro c t hbody
    obtain ⟨s, hs, hc⟩ := joinSlash_head (fun s hs => (hseg s hs).1) hbody
    obtain ⟨hin, h47⟩ := (hseg s hs).2 c hc
    exact ⟨h47, (badByte_eq_false.mp (hb c hin)).2.2⟩
  · intro c hc
    obtain rfl | ⟨s, hs, hcs⟩ := joinSlash_mem _ c hc
    · decide
    · exact hb c ((hseg s hs).2 c hcs).1

theorem splitQuery_spec (v : Bytes) :
    (∀ c ∈ (splitQuery v).1, c ∈ v) ∧ (∀ c ∈ (splitQuery v).2, c ∈ v) ∧
    ((splitQuery v).2 = [] ∨ ∃ t, (splitQuery v).2 = 63 :: t) ∧
    (∀ r, v = 47 :: r → ∃ r', (splitQuery v).1 = 47 :: r') := by
  fun_induction splitQuery v <;> simp_all

/-- Appending keeps the shape unless it would put a second `/` right behind the first. -/
theorem Rooted.append {v q : Bytes} (hv : Rooted v) (hq : ∀ c ∈ q, badByte c = false)
    (h : v = [47] → ∀ t, q ≠ 47 :: t) : Rooted (v ++ q) := by
  obtain ⟨tail, rfl, h1, hb⟩ := hv
  refine ⟨tail ++ q, rfl, ?_, List.forall_mem_append.mpr ⟨hb, hq⟩⟩
  intro c t e
  cases tail with
  | nil =>
    obtain rfl : q = c :: t := e
    exact ⟨fun hc => h rfl t (hc ▸ rfl), (badByte_eq_false.mp (hq c (.head _))).2.2⟩
  | cons a r =>
    cases e
    exact h1 _ _ rfl

theorem goRedirect_rooted {v : Bytes} (hv : Rooted v) (relative : Bool) :
    Rooted (goRedirect v relative) := by
  unfold goRedirect
  cases relative with
  | false => exact hv
  | true =>
    have hb := hv.good
    obtain ⟨rest, rfl, -, -⟩ := hv
    obtain ⟨hp, hq, hq63, hp47⟩ := splitQuery_spec (47 :: rest)
    obtain ⟨r', hr'⟩ := hp47 rest rfl
    -- what `clean_rooted` concludes is `Rooted (clean _)` written out
    have hcp : Rooted (clean (47 :: r')) := clean_rooted r' fun c hc => hb c (hp c (hr' ▸ hc))
    simp only [Bool.not_true, Bool.false_eq_true, if_false, hr']
    -- the query is empty or starts with `?`, so it may follow even a bare `/`
    refine Rooted.append ?_ (fun c hc => hb c (hq c hc)) fun _ t e => ?_
    · split
      · -- a slash is put back only where the cleaned path does not end in one, so not after `/`
        rename_i hslash
        refine hcp.append (by decide) fun e => ?_
        simp [e] at hslash
      · exact hcp
    · rcases hq63 with h | ⟨t', h⟩ <;> simp [h] at e

/-- **C15_guard_sound.** Whatever `net/url` makes of the value (`relative` is universally
quantified), the `Location` that `http.Redirect` emits for a value the guard accepted is not
a reference a browser resolves to another origin; neither is the value itself. -/
theorem C15_guard_sound (v : Bytes) (relative : Bool) (h : guard v = true) :
    offSite (goRedirect v relative) = false ∧ offSite v = false :=
  ⟨offSite_rooted (goRedirect_rooted (guard_rooted h) relative), C15_value_same_site v h⟩

/-! ### The old guard was not sound: kernel-checked witnesses (all reach `Location` through
`strings.Contains(redir, "://")`; replayed on the real code before the `fix:`) -/

def oldGuard (v : Bytes) : Bool := !containsSchemeSep v

theorem C15_old_guard_witnesses :
    (oldGuard (lit "//evil.example") = true ∧ offSite (lit "//evil.example") = true) ∧
    (oldGuard (lit "/\\evil.example") = true ∧ offSite (lit "/\\evil.example") = true) ∧
    (oldGuard (lit "https:evil.example") = true ∧ offSite (lit "https:evil.example") = true) ∧
    (oldGuard (lit "/a/../\\evil.example") = true ∧
      offSite (goRedirect (lit "/a/../\\evil.example") true) = true) := by decide +kernel

/-- … and the new guard refuses every one of them. -/
theorem C15_new_guard_refuses :
    guard (lit "//evil.example") = false ∧ guard (lit "/\\evil.example") = false ∧
    guard (lit "https:evil.example") = false ∧ guard (lit "/a/../\\evil.example") = false ∧
    guard (lit "/\t/evil.example") = false ∧ guard (lit "http://evil.example") = false ∧ guard [] = false := by decide +kernel

/-- Non-vacuity: ordinary return targets pass. -/
example : guard (lit "/") = true ∧ guard (lit "/home?x=1&y=%2F") = true ∧ guard (lit "/a/b/../c/") = true := by decide +kernel

end AuthbossModel.Redirect
