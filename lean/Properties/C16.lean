/-
  C16 — Responses leak neither password correctness when locked nor account existence.

  What a client observes of one request is, in the model, the list of actions the handler
  appends (session / cookie events and the response) together with how the handler stopped.
  Each theorem *characterises* that observation by a function of the configuration alone
  (`recoverAnswer`, `loginRefusal`, `lockedAnswer`): it does not mention the store, the
  account, its counters or the submitted secret.  The two-run statements (`C16_a`, `C16_b`,
  `C16_c`) are corollaries: both runs give the same characterised answer.

  Quantified over: every configuration (module subset in any order without repetition, form
  and JSON), every account state and attempt counter, every password / PID.  Hypothesis
  `fault = none`: no backend failure during the request (failures are C18's subject).
-/
import Proofs.Veto

namespace AuthbossModel.M

-- What the computations below run through, besides the monad itself (`exec`): the fault oracle (quiet
-- throughout, `fault = none`), the answers, and the two handlers on `Before(EventAuth)` / `After(EventAuthFail)`.
attribute [local simp] oracle tick M.redirect redirTarget M.sendMail M.currentUser M.writeBack lockUpdate confirmPrevent

/-- The answer of `recover.StartPost` to a well-formed request, whoever is named. -/
def recoverAnswer (c : Ctx) : List Act :=
  if c.cfg.json then [.respond (.redirect root (some .recoverInitiateSuccessFlash) none)]
  else [.sess (.put .flashOk (lit Txt.recoverInitiateSuccessFlash.name)),
        .respond (.redirect root (some .recoverInitiateSuccessFlash) none)]

theorem C16_recover_start (c : Ctx) (hf : c.fault = none) (hv : c.req.valid = true) :
    (recoverStartPost c).1 = .ok ⟨⟩ ∧ (recoverStartPost c).2.acts = c.acts ++ recoverAnswer c := by
  have hb := before_nil (e := .recoverStart) nofun nofun nofun c.cfg.units
  have ha := after_nil (e := .recoverStart) nofun nofun nofun nofun nofun c.cfg.units
  unfold recoverStartPost
  by_cases hj : c.cfg.json = true <;> cases hfind : c.store.find c.req.pid <;>
    simp [exec, hf, hv, hfind, hb, ha, recoverAnswer, hj]

@[simp] theorem withL_lstate (u : User) (s : Lock.LState) : (u.withL s).lstate = s := rfl

theorem authFail_handlers (us : List Unit) (h : us.Nodup) :
    us.flatMap (·.after .authFail) = if Unit.lock ∈ us then [lockUpdate false] else [] := by
  induction us with
  | nil => rfl
  | cons u us ih =>
    have hn := List.nodup_cons.mp h
    rw [List.flatMap_cons, ih hn.2]
    cases u <;> simp [Unit.after] <;> (try simp_all)

/-- What a refused password login looks like to the client. -/
def loginRefusal (c : Ctx) : List Act := [.respond (.page .login (errTag .invalidCredentials))]

theorem C16_login_unknown (c : Ctx) (hf : c.fault = none) (hfind : c.store.find c.req.pid = none) :
    (authLoginPost c).1 = .ok ⟨⟩ ∧ (authLoginPost c).2.acts = c.acts ++ loginRefusal c := by
  unfold authLoginPost
  simp [exec, hf, hfind, loginRefusal]

theorem C16_login_wrong_password (c : Ctx) (u : User) (hf : c.fault = none) (hnd : c.cfg.units.Nodup)
    (hfind : c.store.find c.req.pid = some u) (hwrong : (u.pw.isEmpty || u.pw != c.req.pw) = true)
    (hnl : Lock.isLocked c.now (Lock.update (lockCfg c.cfg) c.now false u.lstate) = false) :
    (authLoginPost c).1 = .ok ⟨⟩ ∧ (authLoginPost c).2.acts = c.acts ++ loginRefusal c := by
  have ha := authFail_handlers c.cfg.units hnd
  have hw : u.pw = [] ∨ ¬ u.pw = c.req.pw := by simpa using hwrong
  unfold authLoginPost
  by_cases hl : Unit.lock ∈ c.cfg.units
  · simp only [hl, if_true] at ha
    simp [exec, hf, hfind, loginRefusal, hw, ha, hnl]
  · simp only [hl, if_false] at ha
    simp [exec, hf, hfind, loginRefusal, hw, ha]


/-- A locked account stays locked whatever the password was (positive lock duration). -/
theorem locked_after_update (lc : Lock.LCfg) (now : Int) (b : Bool) (s : Lock.LState)
    (hl : Lock.isLocked now s = true) (hd : 0 < lc.duration) :
    Lock.isLocked now (Lock.update lc now b s) = true := by
  unfold Lock.isLocked Lock.update at *
  cases b
  · simp only [Bool.false_eq_true, if_false]
    simp only [decide_eq_true_eq] at hl ⊢
    split <;> omega
  · simpa using hl

theorem before_auth_other (u : Unit) (h1 : u ≠ .lock) (h2 : u ≠ .confirm) : u.before .auth = [] := by
  cases u <;> first | rfl | exact absurd rfl h1 | exact absurd rfl h2

theorem before_auth_list (us : List Unit) (h : us.Nodup) :
    (us.flatMap (·.before .auth) = [] ∧ Unit.lock ∉ us ∧ Unit.confirm ∉ us) ∨
    (us.flatMap (·.before .auth) = [lockUpdate true] ∧ Unit.lock ∈ us ∧ Unit.confirm ∉ us) ∨
    (us.flatMap (·.before .auth) = [confirmPrevent] ∧ Unit.lock ∉ us ∧ Unit.confirm ∈ us) ∨
    (us.flatMap (·.before .auth) = [lockUpdate true, confirmPrevent] ∧ Unit.lock ∈ us ∧ Unit.confirm ∈ us) ∨
    (us.flatMap (·.before .auth) = [confirmPrevent, lockUpdate true] ∧ Unit.lock ∈ us ∧ Unit.confirm ∈ us) := by
  induction us with
  | nil => simp
  | cons u us ih =>
    have hn := List.nodup_cons.mp h
    have ih := ih hn.2
    rw [List.flatMap_cons]
    by_cases h1 : u = .lock
    · subst h1
      have : Unit.before .lock .auth = [lockUpdate true] := rfl
      rw [this]
      rcases ih with ⟨e, a, b⟩ | ⟨e, a, b⟩ | ⟨e, a, b⟩ | ⟨e, a, b⟩ | ⟨e, a, b⟩ <;> simp_all
    · by_cases h2 : u = .confirm
      · subst h2
        have : Unit.before .confirm .auth = [confirmPrevent] := rfl
        rw [this]
        rcases ih with ⟨e, a, b⟩ | ⟨e, a, b⟩ | ⟨e, a, b⟩ | ⟨e, a, b⟩ | ⟨e, a, b⟩ <;> simp_all
      · rw [before_auth_other u h1 h2]
        have hl : (Unit.lock ∈ u :: us) = (Unit.lock ∈ us) := by simp [Ne.symm h1]
        have hc : (Unit.confirm ∈ u :: us) = (Unit.confirm ∈ us) := by simp [Ne.symm h2]
        rw [hl, hc]
        simpa using ih

/-- What a locked account answers to a login attempt. -/
def lockedAnswer (c : Ctx) : List Act :=
  if c.cfg.json then [.respond (.redirect root none (some .locked))]
  else [.sess (.put .flashErr (lit Txt.locked.name)), .respond (.redirect root none (some .locked))]

theorem C16_locked_wrong_password (c : Ctx) (u : User) (hf : c.fault = none) (hnd : c.cfg.units.Nodup)
    (hlock : Unit.lock ∈ c.cfg.units) (hd : 0 < c.cfg.lockDuration)
    (hfind : c.store.find c.req.pid = some u) (hwrong : (u.pw.isEmpty || u.pw != c.req.pw) = true)
    (hl : Lock.isLocked c.now u.lstate = true) :
    (authLoginPost c).1 = .stop .done ∧ (authLoginPost c).2.acts = c.acts ++ lockedAnswer c := by
  have ha := authFail_handlers c.cfg.units hnd
  simp only [hlock, if_true] at ha
  have hw : u.pw = [] ∨ ¬ u.pw = c.req.pw := by simpa using hwrong
  have hl' := locked_after_update (lockCfg c.cfg) c.now false u.lstate hl hd
  unfold authLoginPost
  by_cases hj : c.cfg.json = true <;>
  simp [exec, hf, hfind, hw, ha, hl', lockedAnswer, hj]


theorem C16_locked_correct_password (c : Ctx) (u : User) (hf : c.fault = none) (hnd : c.cfg.units.Nodup)
    (hlock : Unit.lock ∈ c.cfg.units) (hconf : u.confirmed = true)
    (hfind : c.store.find c.req.pid = some u) (hright : (u.pw.isEmpty || u.pw != c.req.pw) = false)
    (hl : Lock.isLocked c.now u.lstate = true) :
    (authLoginPost c).1 = .stop .done ∧ (authLoginPost c).2.acts = c.acts ++ lockedAnswer c := by
  have hw : ¬ (u.pw = [] ∨ ¬ u.pw = c.req.pw) := by simpa using hright
  have hl' : Lock.isLocked c.now (Lock.update (lockCfg c.cfg) c.now true u.lstate) = true := by
    simpa [Lock.update, Lock.isLocked] using hl
  have hcf : (u.withL (Lock.update (lockCfg c.cfg) c.now true u.lstate)).confirmed = true := hconf
  unfold authLoginPost
  rcases before_auth_list c.cfg.units hnd with ⟨_, a, _⟩ | ⟨hb, _, _⟩ | ⟨_, a, _⟩ | ⟨hb, _, _⟩ | ⟨hb, _, _⟩ <;>
    first
    | exact absurd hlock a
    | (by_cases hj : c.cfg.json = true <;> simp [exec, hf, hfind, hw, hb, hl', lockedAnswer, hj, hcf, hconf])


/-! ### One-time-password login (same three shapes) -/

def otpRefusal (_c : Ctx) : List Act := [.respond (.page .otplogin (errTag .invalidCredentials))]

theorem C16_otp_unknown (c : Ctx) (hf : c.fault = none) (hfind : c.store.find c.req.pid = none) :
    (otpLoginPost c).1 = .ok ⟨⟩ ∧ (otpLoginPost c).2.acts = c.acts ++ otpRefusal c := by
  unfold otpLoginPost
  simp [exec, hf, hfind, otpRefusal]

theorem C16_otp_wrong (c : Ctx) (u : User) (hf : c.fault = none) (hnd : c.cfg.units.Nodup)
    (hfind : c.store.find c.req.pid = some u) (hwrong : u.otps.findIdx? (· == c.req.pw) = none)
    (hnl : Lock.isLocked c.now (Lock.update (lockCfg c.cfg) c.now false u.lstate) = false) :
    (otpLoginPost c).1 = .ok ⟨⟩ ∧ (otpLoginPost c).2.acts = c.acts ++ otpRefusal c := by
  have ha := authFail_handlers c.cfg.units hnd
  unfold otpLoginPost
  by_cases hl : Unit.lock ∈ c.cfg.units
  · simp only [hl, if_true] at ha
    simp [exec, hf, hfind, otpRefusal, hwrong, ha, hnl]
  · simp only [hl, if_false] at ha
    simp [exec, hf, hfind, otpRefusal, hwrong, ha]

theorem C16_locked_wrong_otp (c : Ctx) (u : User) (hf : c.fault = none) (hnd : c.cfg.units.Nodup)
    (hlock : Unit.lock ∈ c.cfg.units) (hd : 0 < c.cfg.lockDuration)
    (hfind : c.store.find c.req.pid = some u) (hwrong : u.otps.findIdx? (· == c.req.pw) = none)
    (hl : Lock.isLocked c.now u.lstate = true) :
    (otpLoginPost c).1 = .stop .done ∧ (otpLoginPost c).2.acts = c.acts ++ lockedAnswer c := by
  have ha := authFail_handlers c.cfg.units hnd
  simp only [hlock, if_true] at ha
  have hl' := locked_after_update (lockCfg c.cfg) c.now false u.lstate hl hd
  unfold otpLoginPost
  by_cases hj : c.cfg.json = true <;>
  simp [exec, hf, hfind, hwrong, ha, hl', lockedAnswer, hj]

theorem C16_locked_correct_otp (c : Ctx) (u : User) (i : Nat) (hf : c.fault = none) (hnd : c.cfg.units.Nodup)
    (hlock : Unit.lock ∈ c.cfg.units) (hconf : u.confirmed = true)
    (hfind : c.store.find c.req.pid = some u) (hright : u.otps.findIdx? (· == c.req.pw) = some i)
    (hl : Lock.isLocked c.now u.lstate = true) :
    (otpLoginPost c).1 = .stop .done ∧ (otpLoginPost c).2.acts = c.acts ++ lockedAnswer c := by
  have hlk : u.locked > c.now := by simpa [Lock.isLocked, User.lstate] using hl
  have hnle : ¬ (u.locked ≤ c.now) := Int.not_le.mpr hlk
  unfold otpLoginPost
  rcases before_auth_list c.cfg.units hnd with ⟨_, a, _⟩ | ⟨hb, _, _⟩ | ⟨_, a, _⟩ | ⟨hb, _, _⟩ | ⟨hb, _, _⟩ <;>
    first
    | exact absurd hlock a
    | (by_cases hj : c.cfg.json = true <;>
        simp [exec, hf, hfind, hright, hb, lockedAnswer, hj, hconf, Lock.isLocked, Lock.update, User.lstate, User.withL,
          hlk, hnle])

/-! ### The two-run statements of the property -/

def stopOf {α} : Res α → Option Stop
  | .ok _ => none
  | .stop s => some s

/-- What the client observes of a handler run: how it ended and what it appended. -/
def observed {α} (h : H α) (c : Ctx) : Option Stop × List Act :=
  (stopOf (h c).1, (h c).2.acts.drop c.acts.length)

theorem observed_of {α} {h : H α} {c : Ctx} {r : Res α} {ans : List Act}
    (h1 : (h c).1 = r) (h2 : (h c).2.acts = c.acts ++ ans) :
    observed h c = (stopOf r, ans) := by
  unfold observed; rw [h1, h2]; simp

/-- Two requests "look alike to the server except for …": same configuration, clock and
pending client state; they may differ in the store they meet and in the request. -/
structure Alike (c1 c2 : Ctx) : Prop where
  cfg : c1.cfg = c2.cfg
  acts : c1.acts = c2.acts

/-- **C16 (a).** Locked, confirmed account: a correct and an incorrect password are answered
identically — for every attempt counter, every lock instant in the future, with or without
the confirm module and in either load order. -/
theorem C16_a (c1 c2 : Ctx) (u1 u2 : User) (hal : Alike c1 c2)
    (hf1 : c1.fault = none) (hf2 : c2.fault = none) (hnd : c1.cfg.units.Nodup)
    (hlock : Unit.lock ∈ c1.cfg.units) (hd : 0 < c1.cfg.lockDuration)
    (h1 : c1.store.find c1.req.pid = some u1) (h2 : c2.store.find c2.req.pid = some u2)
    (hl1 : Lock.isLocked c1.now u1.lstate = true) (hl2 : Lock.isLocked c2.now u2.lstate = true)
    (hconf : u1.confirmed = true)
    (hright : (u1.pw.isEmpty || u1.pw != c1.req.pw) = false)
    (hwrong : (u2.pw.isEmpty || u2.pw != c2.req.pw) = true) :
    observed authLoginPost c1 = observed authLoginPost c2 := by
  have hcfg := hal.cfg
  have a := C16_locked_correct_password c1 u1 hf1 hnd hlock hconf h1 hright hl1
  have b := C16_locked_wrong_password c2 u2 hf2 (hcfg ▸ hnd) (hcfg ▸ hlock) (hcfg ▸ hd) h2 hwrong hl2
  rw [observed_of a.1 a.2, observed_of b.1 b.2]
  simp [lockedAnswer, hcfg]

/-- **C16 (a)** for the one-time-password login. -/
theorem C16_a_otp (c1 c2 : Ctx) (u1 u2 : User) (i : Nat) (hal : Alike c1 c2)
    (hf1 : c1.fault = none) (hf2 : c2.fault = none) (hnd : c1.cfg.units.Nodup)
    (hlock : Unit.lock ∈ c1.cfg.units) (hd : 0 < c1.cfg.lockDuration)
    (h1 : c1.store.find c1.req.pid = some u1) (h2 : c2.store.find c2.req.pid = some u2)
    (hl1 : Lock.isLocked c1.now u1.lstate = true) (hl2 : Lock.isLocked c2.now u2.lstate = true)
    (hconf : u1.confirmed = true)
    (hright : u1.otps.findIdx? (· == c1.req.pw) = some i)
    (hwrong : u2.otps.findIdx? (· == c2.req.pw) = none) :
    observed otpLoginPost c1 = observed otpLoginPost c2 := by
  have hcfg := hal.cfg
  have a := C16_locked_correct_otp c1 u1 i hf1 hnd hlock hconf h1 hright hl1
  have b := C16_locked_wrong_otp c2 u2 hf2 (hcfg ▸ hnd) (hcfg ▸ hlock) (hcfg ▸ hd) h2 hwrong hl2
  rw [observed_of a.1 a.2, observed_of b.1 b.2]
  simp [lockedAnswer, hcfg]

/-- **C16 (b).** A recovery request is answered identically whether or not the named account
exists (whatever its state). -/
theorem C16_b (c1 c2 : Ctx) (hal : Alike c1 c2) (hf1 : c1.fault = none) (hf2 : c2.fault = none)
    (hv1 : c1.req.valid = true) (hv2 : c2.req.valid = true) :
    observed recoverStartPost c1 = observed recoverStartPost c2 := by
  have a := C16_recover_start c1 hf1 hv1
  have b := C16_recover_start c2 hf2 hv2
  rw [observed_of a.1 a.2, observed_of b.1 b.2]
  simp [recoverAnswer, hal.cfg]

/-- **C16 (c).** A failed login naming an unknown account and one naming a known account with a
wrong password that does not lock it are answered identically. -/
theorem C16_c (c1 c2 : Ctx) (u : User) (hf1 : c1.fault = none) (hf2 : c2.fault = none)
    (hnd : c2.cfg.units.Nodup)
    (h1 : c1.store.find c1.req.pid = none) (h2 : c2.store.find c2.req.pid = some u)
    (hwrong : (u.pw.isEmpty || u.pw != c2.req.pw) = true)
    (hnl : Lock.isLocked c2.now (Lock.update (lockCfg c2.cfg) c2.now false u.lstate) = false) :
    observed authLoginPost c1 = observed authLoginPost c2 := by
  have a := C16_login_unknown c1 hf1 h1
  have b := C16_login_wrong_password c2 u hf2 hnd h2 hwrong hnl
  rw [observed_of a.1 a.2, observed_of b.1 b.2]
  rfl

theorem C16_c_otp (c1 c2 : Ctx) (u : User) (hf1 : c1.fault = none) (hf2 : c2.fault = none)
    (hnd : c2.cfg.units.Nodup)
    (h1 : c1.store.find c1.req.pid = none) (h2 : c2.store.find c2.req.pid = some u)
    (hwrong : u.otps.findIdx? (· == c2.req.pw) = none)
    (hnl : Lock.isLocked c2.now (Lock.update (lockCfg c2.cfg) c2.now false u.lstate) = false) :
    observed otpLoginPost c1 = observed otpLoginPost c2 := by
  have a := C16_otp_unknown c1 hf1 h1
  have b := C16_otp_wrong c2 u hf2 hnd h2 hwrong hnl
  rw [observed_of a.1 a.2, observed_of b.1 b.2]
  rfl

/-- The side condition of (c) is needed: an attempt that *does* lock the account is answered
differently (the lock redirect) — kernel-evaluated on a concrete run. -/
example :
    let cfg : Config := { units := [.auth, .lock], lockAfter := 1, lockWindow := 1000, lockDuration := 1000 }
    let u : User := { pid := lit "a@x.c", pw := lit "pw", confirmed := true }
    let s := run cfg {} [.seedUser u, .http (lit "b") .login { pid := lit "a@x.c", pw := lit "bad" } none]
    (s.browser (lit "b")).sess.get .flashErr = some (lit Txt.locked.name) := by decide +kernel


/-- Non-vacuity of (a): a concrete locked, confirmed account in a configuration with lock and
confirm loaded; both passwords leave the browser in the same state (kernel-evaluated through
the whole request pipeline, middlewares included). -/
example :
    let cfg : Config := { units := [.confirm, .auth, .lock, .remember], lockAfter := 3, lockWindow := 1000, lockDuration := 1000 }
    let u : User := { pid := lit "a@x.c", pw := lit "pw", confirmed := true, locked := 500, attempts := 2 }
    let s1 := run cfg {} [.seedUser u, .http (lit "b") .login { pid := lit "a@x.c", pw := lit "pw" } none]
    let s2 := run cfg {} [.seedUser u, .http (lit "b") .login { pid := lit "a@x.c", pw := lit "bad" } none]
    (s1.browser (lit "b")).sess = (s2.browser (lit "b")).sess ∧
    (s1.browser (lit "b")).sess.get .flashErr = some (lit Txt.locked.name) := by decide +kernel

end AuthbossModel.M
