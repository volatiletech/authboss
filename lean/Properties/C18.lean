/-
  C18 — Backend failures never panic, fake success or weaken security state.

  In the model every call that leaves the library (storage, hasher, renderer, mailer, SMS
  sender, OAuth2 provider) goes through `backend`, which consults the fault oracle of the
  context (`oracle c`).  Every theorem here is stated for an arbitrary context, i.e. for
  every fault oracle: every call index and every error kind at once.

  What is proved:
  * a failing `Save` / token use / hash / render changes nothing in storage and is reported
    to the caller (`C18_save_fault`, `C18_useToken_fault`, …);
  * save-before-session ordering on the four one-time credentials (the mechanism the
    property is anchored in): one-time password (`C12_otp_consumed_first`, re-exported),
    remember token (`C18_remember_consumed`), recovery code at the TOTP and at the SMS step
    (`C18_totp_reccode_saved`, `C18_sms_reccode_saved`);
  * a failed user save never puts a record in storage (`C18_save_monotone`).

  * `C18_no_panic`: no request on any route other than the three that *are*
    `lock.Middleware` / `confirm.Middleware` (known finding K3) ends in a panic, whatever call
    fails and however (`Proofs/NoPanic.lean`: every handler, event handler, middleware).

  What is *not* proved here and is decided by the fault enumeration of the correspondence
  check instead (see DESIGN.md): "no success response for an unsaved change" per route, and
  "nothing spent comes back".
-/
import Proofs.Dispatch
import Proofs.Veto
import Proofs.NoPanic
import Proofs.StepUid
import Properties.C02

namespace AuthbossModel.M

/-! ### A failing backend call changes nothing and is reported -/

/-- `Save` under a fault: reports the error, leaves storage as it was. -/
theorem C18_save_fault (u : User) (c : Ctx) (k : ErrKind) (h : oracle c = some k) :
    (M.save u c).1 = .ok true ∧ (M.save u c).2.store = c.store := by
  rw [save_eq, h]
  exact ⟨rfl, rfl⟩

/-- `Save` either fails and leaves storage untouched, or succeeds and stores exactly `u`. -/
theorem C18_save_monotone (u : User) (c : Ctx) :
    ((M.save u c).1 = .ok true ∧ (M.save u c).2.store = c.store) ∨
    ((M.save u c).1 = .ok false ∧ (M.save u c).2.store = c.store.upsert u) := by
  rw [save_eq]
  split
  · exact .inl ⟨rfl, rfl⟩
  · exact .inr ⟨rfl, rfl⟩

/-- The hasher and the renderer under a fault: reported, nothing stored. -/
theorem C18_hash_fault (c : Ctx) (k : ErrKind) (h : oracle c = some k) :
    (M.hash c).1 = .ok true ∧ (M.hash c).2.store = c.store := by
  rw [hash_eq, h]
  exact ⟨rfl, rfl⟩

theorem C18_render_fault (c : Ctx) (k : ErrKind) (h : oracle c = some k) :
    (M.render c).1 = .ok true ∧ (M.render c).2.store = c.store := by
  rw [render_eq, h]
  exact ⟨rfl, rfl⟩

/-- A page whose rendering fails is never written: the request ends with an error. -/
theorem C18_respond_fault (p : Page) (t : List String) (c : Ctx) (k : ErrKind) (h : oracle c = some k) :
    (∃ e, (M.respond p t c).1 = .stop (.err e)) ∧ (M.respond p t c).2.acts = c.acts := by
  rw [respond_eq, h]
  exact ⟨⟨_, rfl⟩, rfl⟩

/-- A remember token whose `UseRememberToken` call fails is *not* consumed and does *not*
authenticate (`none` = error, `some false` = token not found). -/
theorem C18_useToken_fault (pid raw : Bytes) (c : Ctx) (k : ErrKind) (h : oracle c = some k) :
    (useToken pid raw c).1 ≠ .ok (some true) ∧ (useToken pid raw c).2.store = c.store := by
  rw [useToken_eq, h]
  cases k <;> exact ⟨nofun, rfl⟩

/-! ### Save-before-session ordering on one-time credentials -/

/-- **C18_remember_consumed.** `remember.Authenticate` writes an identity only for the PID of
a token whose consumption succeeded in storage — for every fault oracle. -/
theorem C18_remember_consumed (c0 : Ctx) :
    Safe (fun U => ∃ raw c', c0.rm = some (.raw raw) ∧ rememberPid raw = some U ∧
        useToken U raw c0 = (.ok (some true), c') ∧ oracle c0 = none ∧
        c'.store.tokens = c0.store.tokens.erase (U, raw))
      rememberAuthenticate c0 :=
  (rememberAuthenticate_run c0).safe.mono fun _ ⟨raw, c', h1, h2, h3⟩ =>
    ⟨raw, c', h1, h2, h3, (useToken_true h3).1, (useToken_true h3).2.2⟩

/-- **One-time password.** (Proved as `C12_otp_consumed_first`: the identity is written only
after the record without the matched password has been saved successfully.) -/
theorem C18_otp_consumed (c0 : Ctx) :
    Safe (fun U => ∃ u i cX cY, c0.store.find U = some u ∧
        List.findIdx? (fun y => y == c0.req.pw) u.otps = some i ∧
        M.save { u with otps := swapRemove u.otps i } cX = (.ok false, cY))
      otpLoginPost c0 := C12_otp_consumed_first c0

/-- **Recovery code at the TOTP step.** When `totpValidate` reports success for a request that
carries a recovery code, the user it returns is the pending user minus one stored code equal
to the submitted one, and that record has been saved successfully. -/
theorem C18_totp_reccode_saved (c0 : Ctx) (hr : c0.req.rcode ≠ []) :
    Ret (fun r _ => ∀ u, r = some (u, TotpStatus.success) →
          ∃ (u0 : User) (rest : List Bytes) (cX cY : Ctx),
            useRecoveryCode u0.recCodes c0.req.rcode = some rest ∧
            u = { u0 with recCodes := rest } ∧ M.save u cX = (.ok false, cY))
      totpValidate c0 :=
  (totpValidate_success c0).mono fun _ _ h u hu => by
    obtain ⟨u0, _, _, _, ⟨h0, _⟩ | ⟨_, rest, hrc, rfl, cX, cY, hs⟩⟩ := h u hu
    · exact absurd h0 hr
    · exact ⟨u0, rest, cX, cY, hrc, rfl, hs⟩

/-- **Recovery code at the SMS step.** When `smsVerdict` accepts a request that carries a
recovery code (outside enrolment, where recovery codes are not consulted), the user it returns
is `u` minus one stored code equal to the submitted one, saved successfully. -/
theorem C18_sms_reccode_saved (pg : SmsPage) (u : User) (c0 : Ctx)
    (hr : c0.req.rcode ≠ []) (hpg : pg ≠ .confirm) :
    Ret (fun r _ => ∀ u', r = (u', true) →
          ∃ (rest : List Bytes) (cX cY : Ctx),
            useRecoveryCode u.recCodes c0.req.rcode = some rest ∧
            u' = { u with recCodes := rest } ∧ M.save u' cX = (.ok false, cY))
      (smsVerdict pg u) c0 :=
  (smsVerdict_accepts pg u c0).mono fun _ _ h u' hu => by
    obtain ⟨_, _, rest, hrc, rfl, cX, cY, hs⟩ | ⟨hn, _⟩ := h u' hu
    · exact ⟨rest, cX, cY, hrc, rfl, hs⟩
    · exact absurd ⟨hr, hpg⟩ hn

/-! ### No panic -/

/-- **C18_no_panic.** For every configuration, state, request and fault oracle: a request on
any route other than `lock.Middleware` / `confirm.Middleware` themselves never ends in a panic. -/
theorem C18_no_panic (cfg : Config) (s : State) (b : Bytes) (rt : Route) (req : Req) (fault : Option Fault)
    (h1 : rt ≠ .lockmw) (h2 : rt ≠ .confirmmw) (h3 : rt ≠ .rootmw) (e : String) :
    (stepHttp cfg s b rt req fault).2.stop ≠ some (.panic e) := by
  unfold stepHttp
  simp only
  have := NoPanic.serve rt h1 h2 h3 (initCtx cfg s b req fault) e
  generalize serve rt (initCtx cfg s b req fault) = r at this
  obtain ⟨res, c⟩ := r
  cases res with
  | ok a => simp
  | stop st => intro h; simp at h; subst h; exact this rfl

def cfgK3 : Config := { units := [.auth, .lock] }
def sK3 : State := run cfgK3 {} [.seedUser { pid := lit "a@x.c", pw := lit "pw", confirmed := true },
                                  .setSess (lit "b") [(.uid, lit "a@x.c")]]

/-- K3, in the model as in the code: `lock.Middleware` panics when loading the user fails
(the excluded routes of `C18_no_panic` are excluded for a reason). -/
example : (stepHttp cfgK3 sK3 (lit "b") .lockmw {} (some ⟨0, .generic⟩)).2.stop = some (.panic "LoadCurrentUserP") := by
  decide +kernel

/-! ### Non-vacuity -/

def nv18 : Config := { units := [.otp, .auth, .lock], lockAfter := 3, lockWindow := 1000, lockDuration := 1000 }
def nv18User : User := { pid := lit "a@x.c", pw := lit "pw", confirmed := true, otps := [lit "o1", lit "o2"] }

/-- One-time-password login, clean: logged in, the password is gone from storage. -/
example :
    let s := run nv18 {} [.seedUser nv18User, .http (lit "b") .otpLogin { pid := lit "a@x.c", pw := lit "o1" } none]
    ((s.browser (lit "b")).sess.get .uid, (s.store.find (lit "a@x.c")).map (·.otps)) =
      (some (lit "a@x.c"), some [lit "o2"]) := by decide +kernel

/-- The same request with the `Save` that removes the password failing (backend call 1):
no session, and the password is still there. -/
example :
    let s := run nv18 {} [.seedUser nv18User, .http (lit "b") .otpLogin { pid := lit "a@x.c", pw := lit "o1" } (some ⟨1, .generic⟩)]
    ((s.browser (lit "b")).sess.get .uid, (s.store.find (lit "a@x.c")).map (·.otps)) =
      (none, some [lit "o1", lit "o2"]) := by decide +kernel

end AuthbossModel.M
