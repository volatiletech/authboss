/-
  C20 — One configured instance serves concurrent requests without races or cross-talk.

  The model is sequential; what it can carry of this property is the *absence of shared
  request state*: a request is a function of the configuration, the clock, storage, the
  client state of the browser that sent it and the request itself — nothing else — and it
  changes only storage, that browser's client state and the append-only mail/SMS/log sinks.
  Storage is the application's; its per-account operations on different accounts commute.

  Proved here (for every route, request, fault, state):
  * `C20_locality`: the outcome of a request, the storage it leaves and the sender's new
    client state are determined by (configuration, clock, storage, the sender's client state);
    whatever other browsers hold is irrelevant;
  * `C20_other_browsers_untouched`: no request changes another browser's client state;
  * `C20_sinks_append_only`: mail, SMS and log are only appended to;
  * storage algebra: `find`/`upsert` on different accounts do not see each other and commute
    (`C20_find_upsert_ne`, `C20_upsert_comm`), remember tokens of different accounts likewise.

  Not expressible in a sequential model, decided by the race harness instead (DESIGN.md):
  data races inside library code and interleavings *within* a request (the mail goroutines,
  the SMTP mailer's generator).  `partial`.
-/
import Proofs.StepUid

namespace AuthbossModel.M

/-- **C20_other_browsers_untouched.** -/
theorem C20_other_browsers_untouched (cfg : Config) (s : State) (b b' : Bytes) (rt : Route) (req : Req)
    (fault : Option Fault) (h : b' ≠ b) :
    (stepHttp cfg s b rt req fault).1.browser b' = s.browser b' :=
  stepHttp_other cfg s b b' rt req fault h

/-- **C20_locality.** Two states that agree on the clock, on storage and on the client state of
browser `b` — and differ arbitrarily in every other browser's session and cookies, and in what
has been mailed or logged so far — answer a request of `b` identically, leave the same storage
and the same client state for `b`. -/
theorem C20_locality (cfg : Config) (s1 s2 : State) (b : Bytes) (rt : Route) (req : Req) (fault : Option Fault)
    (hnow : s1.now = s2.now) (hstore : s1.store = s2.store) (hb : s1.browser b = s2.browser b) :
    let r1 := stepHttp cfg s1 b rt req fault
    let r2 := stepHttp cfg s2 b rt req fault
    r1.2.resp = r2.2.resp ∧ r1.2.stop = r2.2.stop ∧ r1.1.store = r2.1.store ∧ r1.1.browser b = r2.1.browser b ∧
    r1.1.now = r2.1.now := by
  have hc : initCtx cfg s1 b req fault = initCtx cfg s2 b req fault := by
    unfold initCtx; rw [hnow, hstore, hb]
  unfold stepHttp
  simp only [hc, hb, State.browser_setBrowser, if_true]
  simp [State.setBrowser, hnow]

/-- **C20_sinks_append_only.** What was mailed, texted or logged before a request is still there,
in order, after it. -/
theorem C20_sinks_append_only (cfg : Config) (s : State) (b : Bytes) (rt : Route) (req : Req) (fault : Option Fault) :
    s.mail <+: (stepHttp cfg s b rt req fault).1.mail ∧ s.sms <+: (stepHttp cfg s b rt req fault).1.sms := by
  unfold stepHttp
  simp [State.setBrowser]

/-! ### Storage algebra: different accounts do not interfere -/

/-- Writing one account's record does not change what is read for any other account. -/
theorem C20_find_upsert_ne (s : Store) (u : User) (q : Bytes) (h : u.pid ≠ q) :
    (s.upsert u).find q = s.find q := by
  rw [Store.find_upsert, if_neg h]

/-- **C20_upsert_comm.** Writes to two different accounts commute, as far as any read can tell. -/
theorem C20_upsert_comm (s : Store) (u v : User) (h : u.pid ≠ v.pid) (q : Bytes) :
    ((s.upsert u).upsert v).find q = ((s.upsert v).upsert u).find q := by
  -- two `if` cascades that differ only where both `u.pid = q` and `v.pid = q`
  simp only [Store.find_upsert]
  split <;> split <;> simp_all

/-- Remember tokens: consuming a token of one account leaves every other account's tokens alone. -/
theorem C20_tokens_erase_other (ts : List (Bytes × Bytes)) (p q raw raw' : Bytes) (h : p ≠ q) :
    (q, raw') ∈ ts.erase (p, raw) ↔ (q, raw') ∈ ts :=
  List.mem_erase_of_ne (by simp [Ne.symm h])

/-- … and so does revoking all tokens of one account. -/
theorem C20_tokens_revoke_other (ts : List (Bytes × Bytes)) (p q raw : Bytes) (h : p ≠ q) :
    (q, raw) ∈ ts.filter (·.1 != p) ↔ (q, raw) ∈ ts := by
  simp [List.mem_filter, Ne.symm h]

end AuthbossModel.M
